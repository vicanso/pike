import Pike.Model.Fresh
import Pike.Spec.C03
namespace Pike
namespace Fresh
open Str MiniRe

theorem captures_cons (lit : Str) (c : Char) (cs : Str) :
    Spec.C03.captures lit (c :: cs) =
      (Spec.C03.capAt lit (c :: cs)).toList ++ Spec.C03.captures lit cs := by
  simp only [Spec.C03.captures, List.length_cons, List.range_succ_eq_map, List.filterMap_cons,
    List.filterMap_map, List.drop_zero]
  cases Spec.C03.capAt lit (c :: cs) <;> rfl

theorem findDigitsCS_eq (lit cc : Str) :
    findDigitsCS lit cc = (Spec.C03.captures lit cc).head? := by
  induction cc with
  | nil => rfl
  | cons c cs ih =>
    rw [captures_cons, findDigitsCS, Spec.C03.capAt, ih]
    cases hasPrefix lit (c :: cs)
    · rfl
    · cases h : (takeDigits ((c :: cs).drop lit.length)).isEmpty <;> simp [h]

/-- a directive name that is one of the literals of a case-insensitive alternation makes it match -/
theorem forbidden_name_matches (r : Alt) (cc n : Str) (hci : r.ci = true)
    (hn : n ∈ Spec.C03.directiveNames cc) (hl : ∃ l ∈ r.lits, fold l = n) :
    r.matches cc = true := by
  obtain ⟨t, ht, rfl⟩ := List.mem_map.mp hn
  obtain ⟨f, hf, rfl⟩ := List.mem_map.mp ht
  obtain ⟨l, hl, hle⟩ := hl
  have h1 : trim (nameOf (trim f)) <:+: cc :=
    (trim_infix _).trans ((nameOf_prefix _).isInfix.trans ((trim_infix f).trans (field_infix hf)))
  simp only [Alt.matches, hci, if_true, List.any_eq_true]
  refine ⟨l, hl, ?_⟩
  rw [contains_iff, hle]
  exact fold_infix h1

def sMaxLit : LitDigits := ⟨false, "s-maxage=".toList⟩
def maxLit : LitDigits := ⟨false, "max-age=".toList⟩

/-- the side conditions on the extracted configuration, as one decidable predicate -/
def CfgOK (c : Cfg) : Prop :=
  c.noCache.ci = true
  ∧ (∀ f ∈ Spec.C03.forbidden, ∃ l ∈ c.noCache.lits, fold l = f)
  ∧ c.cookieByValues = true
  ∧ c.sMaxAge = sMaxLit
  ∧ c.maxAge = maxLit

instance (c : Cfg) : Decidable (CfgOK c) := by unfold CfgOK; infer_instance

theorem directiveAge_eq (c : Cfg) (h : CfgOK c) (cc : Str) :
    directiveAge c cc = Spec.C03.directiveAge cc := by
  obtain ⟨_, _, _, hs, hm⟩ := h
  unfold directiveAge Spec.C03.directiveAge LitDigits.find
  rw [hs, hm]
  simp only [sMaxLit, maxLit, Bool.false_eq_true, if_false]
  rw [findDigitsCS_eq, findDigitsCS_eq]
  rfl

/-- under `CfgOK`, what `getCacheMaxAge` returns when none of its three guards fires is the
specification's lifetime -/
theorem cacheMaxAge_eq {c : Cfg} (hc : CfgOK c) (h : Header) :
    cacheMaxAge c h =
      if (h.values hSetCookie).isEmpty = false then 0
      else if (join ',' (h.values hCacheControl)).isEmpty = true then 0
      else if c.noCache.matches (join ',' (h.values hCacheControl)) = true then 0
      else Spec.C03.lifetime h := by
  unfold cacheMaxAge setCookiePresent
  simp only [directiveAge_eq c hc, hc.2.2.1, if_true, Bool.not_eq_true']
  rfl

theorem of_pos_ite_zero {g : Prop} [Decidable g] {x : Int} (h : 0 < if g then 0 else x) : ¬g ∧ 0 < x := by
  split at h
  · exact absurd h (Int.lt_irrefl 0)
  · exact ⟨‹_›, h⟩

/-- a positive lifetime comes from a header set that the origin marked shareable -/
theorem cacheMaxAge_pos {c : Cfg} (hc : CfgOK c) {h : Header} (hpos : 0 < cacheMaxAge c h) :
    (h.values hSetCookie).isEmpty = true
    ∧ (h.values hCacheControl).isEmpty = false
    ∧ (Spec.C03.directiveNames (join ',' (h.values hCacheControl))).all
        (fun n => !Spec.C03.forbidden.contains n) = true
    ∧ cacheMaxAge c h = Spec.C03.lifetime h := by
  rw [cacheMaxAge_eq hc] at hpos ⊢
  obtain ⟨h1, hpos⟩ := of_pos_ite_zero hpos
  obtain ⟨h2, hpos⟩ := of_pos_ite_zero hpos
  obtain ⟨h3, -⟩ := of_pos_ite_zero hpos
  refine ⟨eq_true_of_ne_false h1, ?_, List.all_eq_true.mpr fun n hn => ?_, by rw [if_neg h1, if_neg h2, if_neg h3]⟩
  · cases hv : h.values hCacheControl
    · rw [hv] at h2; exact absurd rfl h2
    · rfl
  · cases hcon : Spec.C03.forbidden.contains n
    · rfl
    · exact absurd (forbidden_name_matches c.noCache _ n hc.1 hn (hc.2.1 n (List.contains_iff_mem.mp hcon))) h3

theorem requestIsPass_eq_false {m : Str} :
    requestIsPass m = false ↔ m = "GET".toList ∨ m = "HEAD".toList := by
  simp only [requestIsPass, Bool.and_eq_false_iff, decide_eq_false_iff_not, Decidable.not_not, ne_eq]

/-- the cache middleware stores exactly when every guard passes -/
theorem storeDecision_eq_some {c : Cfg} {method : Str} {fetching hasResp : Bool} {h : Header} {L : Int} :
    storeDecision c method fetching hasResp h = some L ↔
      (method = "GET".toList ∨ method = "HEAD".toList) ∧ fetching = true ∧ hasResp = true
        ∧ cacheMaxAge c h = L ∧ 0 < L := by
  rw [← requestIsPass_eq_false]
  unfold storeDecision
  grind

/-- C03 for every configuration of the understood shape: what is stored was marked shareable -/
theorem stored_shareable {c : Cfg} (hc : CfgOK c) {method : Str} {fetching hasResp : Bool} {h : Header}
    {L : Int} (hs : storeDecision c method fetching hasResp h = some L) :
    Spec.C03.shareableOK method h L = true := by
  obtain ⟨hm, -, -, rfl, hpos⟩ := storeDecision_eq_some.mp hs
  obtain ⟨h1, h2, h3, h4⟩ := cacheMaxAge_pos hc hpos
  simp only [Spec.C03.shareableOK, Bool.and_eq_true, Bool.or_eq_true, decide_eq_true_eq, Bool.not_eq_true']
  exact ⟨⟨⟨⟨⟨hm, h1⟩, h2⟩, h3⟩, hpos⟩, h4⟩

end Fresh
end Pike
