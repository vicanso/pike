import Pike.Lemmas.SysInv
/- Ghost accounting of upstream contacts per request (for the cache-status label, C03). -/
namespace Pike
namespace Sys
open Entry

/-- completed upstream requests a request in this position has behind it -/
def upsOf : Pc → Nat
  | .fetchDone _ _ => 1
  | .draining _ _ => 1
  | .done (.fetched _) => 1
  | .done .passed => 1
  | _ => 0


def InvU (s : State) : Prop := ∀ t, s.ups t = upsOf (s.pc t)

theorem invU_step {s s' : State} {ev : Event} (h : InvU s) (hs : Step s ev s') : InvU s' := by
  intro x
  cases hs with
  | drop | purge | tick => exact h x
  | crash => rfl
  | upEndFetch hpc | upEndPass hpc =>
    -- the one place where a request completes an upstream exchange
    simp only [upd_apply]
    split
    · rw [h, hpc]; rfl
    · exact h x
  | arrive hpc | arrivePass hpc | lookupHit hpc | lookupMiss hpc | getFetch hpc | getWait hpc | getPass hpc | getHit hpc
  | park hpc | complete hpc | send _ _ hpc | saved hpc | resumeHit hpc | resumePass hpc | resumeFetching hpc | age hpc =>
    exact (h x).trans (upd_congr upsOf hpc (by rfl) x).symm

theorem invU_reachable {s : State} (h : Reachable false s) : InvU s :=
  reachable_induction (fun _ _ _ _ => rfl) invU_step h

end Sys
end Pike
