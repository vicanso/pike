import Pike.Model.Resp
namespace Pike
namespace Resp
open Str MiniRe

/-- what is assumed of the compression libraries -/
structure CodecsOK (k : Codecs) : Prop where
  gz_rt : ∀ s b, k.gunzip (k.gzip s b) = some b
  br_rt : ∀ s b, k.unbr (k.brotli s b) = some b
  gz_ne : ∀ s b, (k.gzip s b).isEmpty = false
  br_ne : ∀ s b, (k.brotli s b).isEmpty = false

/-- the response object represents the (decoded) body `body` -/
structure Rep (k : Codecs) (r : R) (body : Str) : Prop where
  raw : r.raw.isEmpty = false → r.raw = body
  gz : r.gz.isEmpty = false → k.gunzip r.gz = some body
  br : r.br.isEmpty = false → k.unbr r.br = some body
  none : r.raw.isEmpty = true → r.gz.isEmpty = true → r.br.isEmpty = true → body = []

theorem decodeFor_br (k : Codecs) (b : Str) : decodeFor k encBr b = k.unbr b := if_pos rfl

theorem decodeFor_gzip (k : Codecs) (b : Str) : decodeFor k encGzip b = k.gunzip b :=
  (if_neg (by decide +kernel)).trans (if_pos rfl)

theorem decodeFor_nil (k : Codecs) (b : Str) : decodeFor k [] b = some b :=
  (if_neg (by decide +kernel)).trans ((if_neg (by decide +kernel)).trans (if_pos rfl))

theorem decompress_nil (k : Codecs) (b : Str) : decompress k [] b = some b := by
  have : ([] : Str) ≠ encGzip ∧ ([] : Str) ≠ encBr ∧ ([] : Str) ≠ "lz4".toList
      ∧ ([] : Str) ≠ "snz".toList ∧ ([] : Str) ≠ "zst".toList := by decide +kernel
  simp only [decompress, this, if_false, if_true]

theorem getRawBody_rep {k : Codecs} {r : R} {body : Str} (h : Rep k r body) : getRawBody k r = some body := by
  fun_cases getRawBody k r <;> simp only [Bool.not_eq_true', Bool.not_eq_false] at *
  · rw [h.raw ‹_›]
  · exact h.gz ‹_›
  · exact h.br ‹_›
  · rw [h.none ‹_› ‹_› ‹_›]

/-- `Compress` keeps a variant that is present and makes a missing one from the raw body -/
theorem filled_isEmpty {v e : Str} (he : e.isEmpty = false) : (if v.isEmpty then e else v).isEmpty = false := by
  split
  · exact he
  · exact eq_false_of_ne_true ‹_›

theorem compress_rep {k : Codecs} (ok : CodecsOK k) {r : R} {body : Str} (h : Rep k r body) :
    Rep k (compress k r) body := by
  fun_cases compress k r
  iterate 4 exact h
  next _ _ raw hraw _ gz br =>
    obtain rfl : body = raw := Option.some.inj ((getRawBody_rep h).symm.trans hraw)
    refine ⟨nofun, fun _ => ?_, fun _ => ?_, fun _ hg _ => ?_⟩
    · dsimp only [gz]; split
      · exact ok.gz_rt _ _
      · exact h.gz (eq_false_of_ne_true ‹_›)
    · dsimp only [br]; split
      · exact ok.br_rt _ _
      · exact h.br (eq_false_of_ne_true ‹_›)
    · exact absurd hg (by rw [filled_isEmpty (ok.gz_ne _ _)]; nofun)

/-- what `Compress` does when it does something -/
theorem compress_eq {k : Codecs} {r : R} {raw : Str} (hs : shouldCompress r = true)
    (hone : r.gz.isEmpty = true ∨ r.br.isEmpty = true) (hraw : getRawBody k r = some raw)
    (hne : raw.isEmpty = false) :
    compress k r = { r with gz := if r.gz.isEmpty then k.gzip r.srv raw else r.gz,
                            br := if r.br.isEmpty then k.brotli r.srv raw else r.br, raw := [] } := by
  have hboth : ¬((!r.gz.isEmpty) = true ∧ (!r.br.isEmpty) = true) := by
    rcases hone with h | h <;> simp [h]
  simp only [compress, hs, hboth, hraw, hne, Bool.not_true, Bool.false_eq_true, if_false]

theorem shouldCompress_srv (r : R) (s : Str) : shouldCompress { r with srv := s } = shouldCompress r := rfl

theorem getRawBody_srv (k : Codecs) (r : R) (s : Str) : getRawBody k { r with srv := s } = getRawBody k r := rfl

theorem forCache_rep {k : Codecs} (ok : CodecsOK k) {r : R} {body : Str} (h : Rep k r body) :
    Rep k (forCache k r) body :=
  compress_rep ok ⟨h.raw, h.gz, h.br, h.none⟩

/-- `Compress` touches the bodies only -/
theorem forCache_code_header (k : Codecs) (r : R) :
    (forCache k r).code = r.code ∧ (forCache k r).header = r.header := by
  unfold forCache
  fun_cases compress k _ <;> exact ⟨rfl, rfl⟩

/-- Whatever the client accepts, a body is produced; it decodes to the represented body, and its
encoding is the identity or one whose name occurs in Accept-Encoding. -/
theorem negotiate_rep {k : Codecs} (ok : CodecsOK k) {r : R} {body : Str} (h : Rep k r body) (ae : Str) :
    ∃ e out src, negotiate k r ae = some (e, out, src) ∧ decodeFor k e out = some body
      ∧ (e = [] ∨ (e = encBr ∧ contains encBr ae = true) ∨ (e = encGzip ∧ contains encGzip ae = true)) := by
  have hraw := getRawBody_rep h
  -- wherever the raw body is asked for, it is `body`
  fun_cases negotiate k r ae <;> try cases hraw.symm.trans ‹getRawBody k r = _›
  next hc =>
    exact ⟨_, _, _, rfl, (decodeFor_br ..).trans (h.br (by simpa using hc.2)), .inr (.inl ⟨rfl, hc.1⟩)⟩
  next hc =>
    exact ⟨_, _, _, rfl, (decodeFor_gzip ..).trans (h.gz (by simpa using hc.2)), .inr (.inr ⟨rfl, hc.1⟩)⟩
  · exact ⟨_, _, _, rfl, decodeFor_nil .., .inl rfl⟩
  · exact ⟨_, _, _, rfl, (decodeFor_br ..).trans (ok.br_rt ..), .inr (.inl ⟨rfl, ‹_›⟩)⟩
  · exact ⟨_, _, _, rfl, (decodeFor_gzip ..).trans (ok.gz_rt ..), .inr (.inr ⟨rfl, ‹_›⟩)⟩
  · exact ⟨_, _, _, rfl, decodeFor_nil .., .inl rfl⟩

theorem negotiate_sound {k : Codecs} (ok : CodecsOK k) {r : R} {body ae e out : Str} {src : Src}
    (h : Rep k r body) (hn : negotiate k r ae = some (e, out, src)) :
    decodeFor k e out = some body
    ∧ (e = [] ∨ (e = encBr ∧ contains encBr ae = true) ∨ (e = encGzip ∧ contains encGzip ae = true)) := by
  obtain ⟨_, _, _, hn', hs⟩ := negotiate_rep ok h ae
  cases hn.symm.trans hn'
  exact hs

end Resp
end Pike
