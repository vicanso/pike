import Pike.Lemmas.SysInv
/-
For runs in which the store never returns data that was not written to it: the provenance of every hit.  Each
response that is served, held for serving, cached or stored was fetched for that key, with the recorded lifetime.
-/
namespace Pike
namespace Sys
open Entry

/-- the store answers truthfully: a record it returns for a key is the one last written there
(it may still fail, or report not-found) -/
def Honest (s : State) : Event → Prop
  | .get t so =>
    match s.pc t, so with
    | .looked e, .record rec => s.store (s.entries e).key = some rec
    | _, _ => True
  | _ => True

/-- provenance: (key, response, createdAt, expiredAt) was recorded by a completed cacheable fetch -/
def Fetched (fl : List (Key × Nat × Int × Int)) (k : Key) (r : Option Nat) (c x : Int) : Prop :=
  ∃ n, r = some n ∧ (k, n, c, x) ∈ fl ∧ c < x

/-- the response a thread in this position is about to serve, and from which entry -/
def heldOf : Pc → Option (Eid × Option Nat)
  | .hitServe e r => some (e, r)
  | .woken e .hit r => some (e, r)
  | _ => none

/-- the response a thread at `p` is about to serve was fetched for its entry's key -/
def Held (entries : Eid → Entry) (fl : List (Key × Nat × Int × Int)) (p : Pc) : Prop :=
  ∀ e r, heldOf p = some (e, r) → ∃ c x, Fetched fl (entries e).key r c x

theorem Held.of_none {entries : Eid → Entry} {fl : List (Key × Nat × Int × Int)} {p : Pc} (hp : heldOf p = none) :
    Held entries fl p :=
  fun _ _ he => nomatch hp.symm.trans he

/-- provenance of everything that can be served, as a predicate of the four components it is about -/
structure Prov (entries : Eid → Entry) (store : Key → Option Rec) (pc : Tid → Pc) (fl : List (Key × Nat × Int × Int)) :
    Prop where
  entry_prov : ∀ e, (entries e).status = .hit →
    Fetched fl (entries e).key (entries e).resp (entries e).createdAt (entries e).expiredAt
  store_prov : ∀ k rec, store k = some rec → rec.status = .hit → Fetched fl k rec.resp rec.createdAt rec.expiredAt
  held_prov : ∀ t, Held entries fl (pc t)

def Inv2 (s : State) : Prop := Prov s.entries s.store s.pc s.fetched

theorem Fetched.mono {fl fl' : List (Key × Nat × Int × Int)} {k r c x} (h : Fetched fl k r c x) (hsub : ∀ p ∈ fl, p ∈ fl') :
    Fetched fl' k r c x :=
  have ⟨n, h1, h2, h3⟩ := h
  ⟨n, h1, hsub _ h2, h3⟩

section
variable {entries : Eid → Entry} {store : Key → Option Rec} {pc : Tid → Pc} {fl : List (Key × Nat × Int × Int)}
  {t : Tid} {p : Pc} {e : Eid} {en : Entry} (h : Prov entries store pc fl)
include h

theorem Prov.mono {fl' : List (Key × Nat × Int × Int)} (hsub : ∀ p ∈ fl, p ∈ fl') : Prov entries store pc fl' where
  entry_prov e hs := (h.entry_prov e hs).mono hsub
  store_prov k rec hk hs := (h.store_prov k rec hk hs).mono hsub
  held_prov t e r ht := have ⟨c, x, hf⟩ := h.held_prov t e r ht; ⟨c, x, hf.mono hsub⟩

/-- a thread moves to a position whose response, if it holds one, was fetched -/
theorem Prov.move (hp : Held entries fl p) : Prov entries store (upd pc t p) fl :=
  { h with held_prov := upd_forall _ hp h.held_prov }

/-- an entry is written, keeping its key -/
theorem Prov.write (hk : en.key = (entries e).key)
    (hen : en.status = .hit → Fetched fl en.key en.resp en.createdAt en.expiredAt) : Prov (upd entries e en) store pc fl where
  entry_prov e' := by
    by_cases he : e' = e
    · simpa only [he, upd_same] using hen
    · simpa only [upd_other _ _ _ _ he] using h.entry_prov e'
  store_prov := h.store_prov
  held_prov := by simpa only [Held, upd_congr Entry.key rfl hk] using h.held_prov

/-- the store is written at one key -/
theorem Prov.put {k : Key} {v : Option Rec}
    (hv : ∀ rec, v = some rec → rec.status = .hit → Fetched fl k rec.resp rec.createdAt rec.expiredAt) :
    Prov entries (upd store k v) pc fl where
  entry_prov := h.entry_prov
  store_prov k' rec hk := by
    rw [upd_apply] at hk; split at hk
    · next he => exact he ▸ hv rec hk
    · exact h.store_prov k' rec hk
  held_prov := h.held_prov
end

theorem refOf_of_heldOf {p : Pc} {e : Eid} {r : Option Nat} (h : heldOf p = some (e, r)) : refOf p = some e := by
  unfold heldOf at h
  split at h <;> cases h <;> rfl

/-- Where the response of a cache hit comes from: the entry held it, or an honest store returned the record; either
way it was fetched for the entry's key, and it is served within its lifetime. -/
theorem getHit_fetched {s : State} (hi : Inv s) (h2 : Inv2 s) {t : Tid} {e : Eid} {so : Load} {en : Entry} {r : Option Nat}
    (hpc : s.pc t = .looked e) (hon : Honest s (.get t so)) (hg : Entry.get t s.now so (s.entries e) = (en, .hit r)) :
    Fetched s.fetched (s.entries e).key r en.createdAt en.expiredAt ∧ s.now ≤ en.expiredAt := by
  obtain ⟨-, -, e1, -, hst, rfl, rfl⟩ := get_spec (hi.entry_ok e) hg
  have hp := get_hit_prov t s.now so _ (hi.entry_ok e)
  rw [hg] at hp
  obtain ⟨hsrc, hle, -⟩ := hp hst
  refine ⟨?_, hle⟩
  rcases hsrc with ⟨hs, h1, h3, h4⟩ | ⟨-, rec, rfl, hrs, h1, h3, h4⟩
  · rw [h1, h3, h4]; exact h2.entry_prov e hs
  · rw [h1, h3, h4]; exact h2.store_prov _ rec (by simpa only [Honest, hpc] using hon) hrs

theorem Inv2.step {s s' : State} {ev : Event} (h2 : Inv2 s) (hi : Inv s) (hon : Honest s ev) (hs : Step s ev s') :
    Inv2 s' := by
  cases hs with
  | drop | tick => exact h2
  | @purge k deleted =>
    cases deleted
    · exact h2
    · exact h2.put fun _ h => nomatch h
  | arrive | arrivePass | lookupHit | park | upEndFetch | upEndPass | resumePass | resumeFetching | age =>
    exact h2.move (.of_none rfl)
  | @resumeHit t e r hpc =>
    exact h2.move fun e' r' (he : heldOf (.woken e .hit r) = _) => h2.held_prov t e' r' (hpc ▸ he)
  | crash => exact ⟨fun _ h => (nomatch h), h2.store_prov, fun _ => .of_none rfl⟩
  | @lookupMiss t k hpc =>
    -- nobody holds the entry that is created
    have hne : ∀ t' e' r, heldOf (s.pc t') = some (e', r) → e' ≠ ⟨s.next⟩ := fun t' e' r ht he =>
      Nat.lt_irrefl _ (he ▸ hi.ref_alloc t' e' (refOf_of_heldOf ht))
    refine Prov.move ⟨fun e' => ?_, h2.store_prov, fun t' e' r ht => ?_⟩ (.of_none rfl) <;> dsimp only
    · rw [upd_apply]; split
      · exact fun h => nomatch h
      · exact h2.entry_prov e'
    · rw [upd_other _ _ _ _ (hne t' e' r ht)]; exact h2.held_prov t' e' r ht
  | @getWait t so e en hpc hl hg | @getPass t so e en hpc hl hg =>
    obtain ⟨-, hk, e1, -, hst, rfl⟩ := get_spec (hi.entry_ok e) hg
    exact (h2.write hk fun hh => by rw [hst] at hh; cases hh).move (.of_none rfl)
  | @getFetch t so e en hpc hl hg =>
    obtain ⟨-, hk, e1, -, -, rfl⟩ := get_spec (hi.entry_ok e) hg
    exact (h2.write hk fun h => nomatch h).move (.of_none rfl)
  | @getHit t so e en r hpc hl hg =>
    obtain ⟨hf, -⟩ := getHit_fetched hi h2 hpc hon hg
    obtain ⟨-, hk, e1, -, -, rfl, rfl⟩ := get_spec (hi.entry_ok e) hg
    refine (h2.write hk fun _ => hk ▸ hf).move fun e' r' he => ?_
    cases he
    exact ⟨_, _, by rw [upd_same, hk]; exact hf⟩
  | @complete t hfp e o hpc hl =>
    cases o with
    | fail => exact .move (.write h2 rfl fun h => nomatch h) (.of_none rfl)
    | cacheable ttl r =>
      have := hi.done_pos t e ttl r hpc
      have hnew : Fetched (((s.entries e).key, r, s.now, s.now + ttl) :: s.fetched) (s.entries e).key (some r) s.now
          (s.now + ttl) := ⟨r, rfl, List.mem_cons_self, by omega⟩
      exact .move (.write (h2.mono fun p hp => List.mem_cons_of_mem _ hp) rfl fun _ => hnew) (.of_none rfl)
  | @send t e o u rest hpc hq hpu =>
    refine h2.move fun e' r' he => ?_
    cases hst : (s.entries e).status <;> rw [hst] at he <;> cases he
    exact ⟨_, _, h2.entry_prov e hst⟩
  | @saved t ok e o hpc hq =>
    refine Prov.move ?_ (.of_none rfl)
    dsimp only
    split
    · exact h2.put fun rec hr => by cases hr; exact h2.entry_prov e
    · exact h2

/-- runs in which the store never returns a record that was not written to it (it may fail,
lose writes, or report not-found at will) -/
inductive HRun : State → List Event → State → Prop
  | nil (s : State) : HRun s [] s
  | cons {s s1 s' : State} {ev : Event} {evs : List Event} :
      Honest s ev → step false s ev = some s1 → HRun s1 evs s' → HRun s (ev :: evs) s'

def ReachableH (s : State) : Prop := ∃ now hs evs, 0 ≤ now ∧ HRun (init now hs) evs s

theorem hrun_run {s s' : State} {evs : List Event} (h : HRun s evs s') : run false s evs = some s' := by
  induction h with
  | nil s => rfl
  | cons _ hstep _ ih => simp only [run, hstep]; exact ih

theorem inv_hrun {s s' : State} {evs : List Event} (hr : HRun s evs s') (h : Inv s) (h2 : Inv2 s) : Inv s' ∧ Inv2 s' := by
  induction hr with
  | nil s => exact ⟨h, h2⟩
  | cons hon hstep _ ih => exact ih (inv_step h _ hstep) (h2.step h hon (.of_step hstep))

theorem inv_reachableH {s : State} (h : ReachableH s) : Inv s ∧ Inv2 s := by
  obtain ⟨now, hs, evs, hn, hr⟩ := h
  exact inv_hrun hr (inv_init now hs hn) ⟨fun _ h => (nomatch h), fun _ _ h => (nomatch h), fun _ => .of_none rfl⟩

theorem reachableH_reachable {s : State} (h : ReachableH s) : Reachable false s := by
  obtain ⟨now, hs, evs, hn, hr⟩ := h
  exact ⟨now, hs, evs, hn, hrun_run hr⟩

end Sys
end Pike
