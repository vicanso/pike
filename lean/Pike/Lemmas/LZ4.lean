import Pike.Model.LZ4
namespace Pike
namespace LZ4

/-- every element is a byte -/
def IsBytes (s : Str) : Prop := ∀ c ∈ s, c.toNat < 256

theorem isBytes_tail {c : Char} {cs : Str} (h : IsBytes (c :: cs)) : IsBytes cs :=
  fun x hx => h x (List.mem_cons_of_mem _ hx)

theorem isBytes_drop {s : Str} (n : Nat) (h : IsBytes s) : IsBytes (s.drop n) :=
  fun c hc => h c (List.mem_of_mem_drop hc)

/-- every input byte is worth 255 bytes of output: the length read is covered by the bytes it took -/
theorem readExt_bound {s r : Str} {n : Nat} (hb : IsBytes s) (h : readExt s = some (n, r)) :
    n + 255 * r.length ≤ 255 * s.length ∧ IsBytes r := by
  fun_induction readExt s generalizing n r
  case case2 _ ih =>
    cases h
    have := ih (isBytes_tail hb) ‹_›
    exact ⟨by simp only [List.length_cons]; omega, this.2⟩
  case case4 c _ _ =>
    cases h
    have := hb c List.mem_cons_self
    exact ⟨by simp only [List.length_cons]; omega, isBytes_tail hb⟩
  all_goals cases h

theorem readLen_bound {nib : Nat} {s r : Str} {n : Nat} (hb : IsBytes s)
    (h : readLen nib s = some (n, r)) : n + 255 * r.length ≤ nib + 255 * s.length ∧ IsBytes r := by
  revert h
  fun_cases readLen nib s <;> intro h <;> cases h
  · have := readExt_bound hb ‹_›
    exact ⟨by omega, this.2⟩
  · exact ⟨Nat.le_refl _, hb⟩

theorem copyMatch_length (n off : Nat) (out : Str) : (copyMatch n off out).length = out.length + n := by
  fun_induction copyMatch n off out
  case case1 => rfl
  case case2 ih => rw [ih, List.length_append, List.length_singleton]; omega

/-- decoding never expands by more than 255 per input byte -/
theorem decodeSeqs_bound (fuel : Nat) (inp out d : Str) (hb : IsBytes inp)
    (h : decodeSeqs fuel inp out = some d) : d.length ≤ out.length + 255 * inp.length := by
  fun_induction decodeSeqs fuel inp out
  case case2 => cases h; simp                          -- input exhausted
  case case5 tok _ litLen r1 hlit _ out1 _ _ =>       -- the last sequence: literals, copied one for one
    obtain rfl := Option.some.inj h
    have htok := hb tok List.mem_cons_self
    have := readLen_bound (isBytes_tail hb) hlit
    simp only [out1, List.length_append, List.length_take, List.length_cons]
    lia
  case case9 tok _ litLen r1 hlit _ out1 r2 _ _ r3 hr2 _ _ _ r4 hml ih =>
    -- a full sequence: token, literals, two offset bytes, and a match of `ml + 4` with `ml` covered by `readLen_bound`
    have htok := hb tok List.mem_cons_self
    obtain ⟨h1, hb1⟩ := readLen_bound (isBytes_tail hb) hlit
    have hb2 : IsBytes r2 := isBytes_drop litLen hb1
    rw [hr2] at hb2
    obtain ⟨h2, hb4⟩ := readLen_bound (isBytes_tail (isBytes_tail hb2)) hml
    have := ih hb4 h
    have hl2 := congrArg List.length hr2
    simp only [out1, r2, copyMatch_length, List.length_append, List.length_take, List.length_cons,
      List.length_drop] at this hl2 ⊢
    lia
  all_goals cases h

end LZ4
end Pike
