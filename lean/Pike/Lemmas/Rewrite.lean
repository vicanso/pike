import Pike.Model.Proxy
import Pike.Base.Str
/- helper lemmas about the general wildcard matcher of the URL rewriter -/
namespace Pike

theorem Str.hasPrefix_append (p t : Str) : Str.hasPrefix p (p ++ t) = true :=
  Str.hasPrefix_iff.mpr (List.prefix_append p t)

namespace Proxy
open Str

/-- the text a match of `l₀(\S*)l₁…lₖ` with captures `c₁…cₖ` covers -/
def interleave : List Str → List Str → Str
  | [], _ => []
  | [l], _ => l
  | l :: ls, [] => l ++ interleave ls []
  | l :: ls, c :: cs => l ++ c ++ interleave ls cs

theorem takeNonSpace_prefix (s : Str) : takeNonSpace s <+: s := by
  induction s with
  | nil => simp [takeNonSpace]
  | cons c cs ih =>
    unfold takeNonSpace
    split
    · exact List.nil_prefix
    · exact (List.prefix_cons_inj c).mpr ih

/-- what a star may capture, an initial piece of the run of non-blank characters, contains no blank -/
theorem takeNonSpace_take {s : Str} {n : Nat} (h : n ≤ (takeNonSpace s).length) :
    takeNonSpace (s.take n) = s.take n := by
  induction s generalizing n with
  | nil => simp [takeNonSpace]
  | cons c cs ih =>
    cases n with
    | zero => simp [takeNonSpace]
    | succ n =>
      unfold takeNonSpace at h
      split at h
      · simp at h
      · rename_i hc
        simp only [List.take_succ_cons, takeNonSpace, hc, if_false]
        rw [ih (by simpa using h)]

theorem takeNonSpace_append_left {u v : Str} (h : takeNonSpace (u ++ v) = u ++ v) : takeNonSpace v = v := by
  induction u with
  | nil => simpa using h
  | cons c u ih =>
    rw [List.cons_append] at h
    unfold takeNonSpace at h
    split at h
    · simp at h
    · simp only [List.cons.injEq, true_and] at h
      exact ih h

/-- SOUNDNESS of the wildcard matcher: a reported match is a real one — the path, from the match
position on, starts with the literals and captures interleaved, there is one capture per star,
and no capture contains a blank. -/
theorem matchHere_sound : ∀ (ls : List Str) (l s : Str) (caps : List Str), matchHere (l :: ls) s = some caps →
    caps.length = ls.length ∧ interleave (l :: ls) caps <+: s ∧ ∀ c ∈ caps, takeNonSpace c = c
  | [], l, s, caps, hm => by
    simp only [matchHere, Option.ite_none_right_eq_some, Option.some.injEq] at hm
    obtain ⟨hp, rfl⟩ := hm
    exact ⟨rfl, hasPrefix_iff.mp hp, by simp⟩
  | l2 :: rest, l, s, caps, hm => by
    simp only [matchHere, Option.ite_none_right_eq_some] at hm
    obtain ⟨hp, hm⟩ := hm
    obtain ⟨t, rfl⟩ := hasPrefix_iff.mp hp
    rw [List.drop_left] at hm
    -- the first star took `t.take n` for some `n` within the non-blank run, and the rest matched `t.drop n`
    obtain ⟨n, hn, hsome⟩ := List.exists_of_findSome?_eq_some hm
    obtain ⟨caps', hrec, rfl⟩ := Option.map_eq_some_iff.mp hsome
    obtain ⟨h1, ⟨u, hu⟩, h3⟩ := matchHere_sound rest l2 _ caps' hrec
    have hn : n ≤ (takeNonSpace t).length := by simpa [Nat.lt_succ_iff] using hn
    exact ⟨by simp [h1], ⟨u, by simp [interleave, hu]⟩, List.forall_mem_cons.mpr ⟨takeNonSpace_take hn, h3⟩⟩

/-- scanning candidates from the largest down: everything above `k` fails, `k` succeeds -/
theorem findSome_rev_range {β : Type} (f : Nat → Option β) (m k : Nat) (v : β) (hk : k ≤ m)
    (hfail : ∀ n, k < n → n ≤ m → f n = none) (hok : f k = some v) :
    ((List.range (m + 1)).reverse).findSome? f = some v := by
  induction hk with
  | refl => simp [List.range_succ, hok]
  | step hk ih =>
    rw [List.range_succ, List.reverse_append, List.reverse_singleton, List.singleton_append, List.findSome?_cons,
      hfail _ (Nat.lt_succ_of_le hk) (Nat.le_refl _)]
    exact ih fun n h1 h2 => hfail n h1 (Nat.le_succ_of_le h2)

/-- a star followed by more pattern takes `c` if the rest of the pattern matches behind `c` and behind no longer
piece of the non-blank run -/
theorem matchHere_star (l l2 : Str) (rest : List Str) (c t : Str) (caps : List Str)
    (hc : c.length ≤ (takeNonSpace (c ++ t)).length)
    (hfail : ∀ n, c.length < n → n ≤ (takeNonSpace (c ++ t)).length → matchHere (l2 :: rest) ((c ++ t).drop n) = none)
    (hok : matchHere (l2 :: rest) t = some caps) :
    matchHere (l :: l2 :: rest) (l ++ (c ++ t)) = some (c :: caps) := by
  simp only [matchHere, hasPrefix_append, if_true, List.drop_left]
  apply findSome_rev_range _ _ c.length _ hc
  · intro n h1 h2; rw [hfail n h1 h2]; rfl
  · simp [hok]

/-- the last star of a pattern takes the whole run of non-blank characters -/
theorem matchHere_last_star (l s : Str) :
    matchHere [l, []] s = if hasPrefix l s then some [takeNonSpace (s.drop l.length)] else none := by
  simp only [matchHere]
  split
  · apply findSome_rev_range _ _ (takeNonSpace (s.drop l.length)).length _ (Nat.le_refl _)
    · intro n h1 h2; omega
    · simp [hasPrefix, ← List.prefix_iff_eq_take.mp (takeNonSpace_prefix _)]
  · rfl

/-- a match at the very start of the path is the leftmost one -/
theorem matchAny_of_matchHere {lits : List Str} {path : Str} {caps : List Str} (h : matchHere lits path = some caps) :
    matchAny lits path = some caps := by
  unfold matchAny
  rw [List.range_succ_eq_map, List.findSome?_cons, List.drop_zero, h]

theorem splitStars_ne_nil (s : Str) : splitStars s ≠ [] := by
  induction s with
  | nil => simp [splitStars]
  | cons c cs ih =>
    unfold splitStars
    split
    · simp
    · split <;> simp

theorem splitStars_no_star (a : Str) (ha : '*' ∉ a) : splitStars a = [a] := by
  induction a with
  | nil => rfl
  | cons c cs ih =>
    simp only [List.mem_cons, not_or] at ha
    simp [splitStars, ih ha.2, Ne.symm ha.1]

theorem splitStars_append_star (a r : Str) (ha : '*' ∉ a) : splitStars (a ++ '*' :: r) = a :: splitStars r := by
  induction a with
  | nil =>
    obtain ⟨h, t, e⟩ := List.exists_cons_of_ne_nil (splitStars_ne_nil r)
    simp [splitStars, e]
  | cons c cs ih =>
    simp only [List.mem_cons, not_or] at ha
    simp [splitStars, ih ha.2, Ne.symm ha.1]

end Proxy
end Pike
