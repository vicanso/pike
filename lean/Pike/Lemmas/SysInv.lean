import Pike.Lemmas.SysStep
import Pike.Lemmas.Entry
namespace Pike
namespace Sys
open Entry

attribute [grind =] upd_apply
attribute [simp] fetchOf waitOf drainOf refOf

theorem fetchOf_idle : fetchOf .idle = none := rfl
theorem drainOf_idle : drainOf .idle = none := rfl
theorem refOf_idle : refOf .idle = none := rfl
theorem refOf_arrived (k) : refOf (.arrived k) = none := rfl
theorem refOf_fetchDone (e o) : refOf (.fetchDone e o) = some e := rfl

theorem fetchOf_eq_some {p : Pc} {e : Eid} : fetchOf p = some e ↔ p = .fetchUp e ∨ ∃ o, p = .fetchDone e o := by
  cases p <;> simp

theorem waitOf_eq_some {p : Pc} {e : Eid} : waitOf p = some e ↔ p = .registered e ∨ p = .parked e := by
  cases p <;> simp

theorem drainOf_eq_some {p : Pc} {e : Eid} : drainOf p = some e ↔ ∃ o, p = .draining e o := by
  cases p <;> simp

/-- the inductive invariant of the protocol (for the hand-over variant, `reread = false`) -/
structure Inv (s : State) : Prop where
  now_nonneg : 0 ≤ s.now
  entry_ok : ∀ e, Entry.OK (s.entries e)
  fetch_owner : ∀ t e, fetchOf (s.pc t) = some e → s.owner e = some t
  owner_fetch : ∀ t e, s.owner e = some t → fetchOf (s.pc t) = some e
  fetching_owner : ∀ e, (s.entries e).status = .fetching → s.owner e ≠ none
  owner_fetching : ∀ e, s.owner e ≠ none → (s.entries e).status = .fetching
  wait_where : ∀ t e, waitOf (s.pc t) = some e → t ∈ (s.entries e).waiters ∨ t ∈ s.queue e
  mem_wait : ∀ t e, t ∈ (s.entries e).waiters → waitOf (s.pc t) = some e
  queue_wait : ∀ t e, t ∈ s.queue e → waitOf (s.pc t) = some e
  nodup : ∀ e, ((s.entries e).waiters ++ s.queue e).Nodup
  queue_locked : ∀ e, s.queue e ≠ [] → s.lock e ≠ none
  drain_lock : ∀ t e, drainOf (s.pc t) = some e → s.lock e = some t
  lock_drain : ∀ t e, s.lock e = some t → drainOf (s.pc t) = some e
  locked_status : ∀ e, s.lock e ≠ none →
    (s.entries e).status ≠ .fetching ∧ (s.entries e).status ≠ .unknown ∧ (s.entries e).waiters = []
  woken_status : ∀ t e st r, s.pc t = .woken e st r → st = .hit ∨ st = .hitForPass
  done_pos : ∀ t e ttl r, s.pc t = .fetchDone e (.cacheable ttl r) → 0 < ttl
  ref_alloc : ∀ t e, refOf (s.pc t) = some e → e.n < s.next
  shard_alloc : ∀ k e, s.shard k = some e → e.n < s.next ∧ (s.entries e).key = k
  pristine : ∀ e, s.next ≤ e.n →
    (s.entries e).status = .unknown ∧ (s.entries e).waiters = [] ∧ (s.entries e).expiredAt = 0
    ∧ s.owner e = none ∧ s.lock e = none ∧ s.queue e = []

theorem inv_init (now : Int) (hs : Bool) (h : 0 ≤ now) : Inv (init now hs) := by
  constructor <;> intros
  case now_nonneg => exact h
  case entry_ok => exact ok_fresh _
  case nodup => exact List.nodup_nil
  case pristine => exact ⟨rfl, rfl, rfl, rfl, rfl, rfl⟩
  -- every thread is idle and nothing is owned, locked, queued or filed
  all_goals contradiction

/-- a `fetching` entry has its fetcher: upstream, or back and about to complete -/
theorem Inv.fetcher {s : State} (hi : Inv s) {e : Eid} (hf : (s.entries e).status = .fetching) :
    ∃ u, s.owner e = some u ∧ (s.pc u = .fetchUp e ∨ ∃ o, s.pc u = .fetchDone e o) := by
  obtain ⟨u, ho⟩ := Option.ne_none_iff_exists'.mp (hi.fetching_owner e hf)
  exact ⟨u, ho, fetchOf_eq_some.mp (hi.owner_fetch u e ho)⟩

/-- the clauses of `Inv` about one thread position alone -/
structure PcOK (next : Nat) (p : Pc) : Prop where
  woken : ∀ e st r, p = .woken e st r → st = .hit ∨ st = .hitForPass
  done_pos : ∀ e ttl r, p = .fetchDone e (.cacheable ttl r) → 0 < ttl
  ref : ∀ e, refOf p = some e → e.n < next

/-- most positions are neither `woken` nor `fetchDone` -/
theorem PcOK.of_ref {n : Nat} {p : Pc} (hr : ∀ e, refOf p = some e → e.n < n)
    (hwk : ∀ e st r, p = .woken e st r → st = .hit ∨ st = .hitForPass := by intros; contradiction)
    (hfd : ∀ e ttl r, p = .fetchDone e (.cacheable ttl r) → 0 < ttl := by intros; contradiction) : PcOK n p :=
  ⟨hwk, hfd, hr⟩

/-- `m` records, entry by entry, the one thread whose position `c` classifies as being at that entry:
`owner` does so for `fetchOf`, `lock` for `drainOf` -/
def Linked (c : Pc → Option Eid) (pc : Tid → Pc) (m : Eid → Option Tid) : Prop :=
  ∀ t e, c (pc t) = some e ↔ m e = some t

section
variable {c : Pc → Option Eid} {pc : Tid → Pc} {m : Eid → Option Tid} {t : Tid} {p q : Pc} {e : Eid}

theorem Linked.move (h : Linked c pc m) (hq : pc t = q) (hp : c p = c q) : Linked c (upd pc t p) m :=
  fun t' e' => by rw [upd_congr c hq hp]; exact h t' e'

theorem Linked.link (h : Linked c pc m) (hq : pc t = q) (hc : c q = none) (hp : c p = some e) (hm : m e = none) :
    Linked c (upd pc t p) (upd m e (some t)) :=
  fun t' e' => by have := h t' e'; have := h t' e; have := h t e'; grind

theorem Linked.unlink (h : Linked c pc m) (hq : pc t = q) (hc : c q = some e) (hp : c p = none) :
    Linked c (upd pc t p) (upd m e none) :=
  fun t' e' => by have := h t' e'; have := h t' e; have := h t e'; have := h t e; grind
end

/-- `ws e` and `q e` list, between them and without repetition, the threads that wait for `e` -/
def Queued (pc : Tid → Pc) (ws q : Eid → List Tid) : Prop :=
  (∀ t e, waitOf (pc t) = some e ↔ t ∈ ws e ∨ t ∈ q e) ∧ ∀ e, (ws e ++ q e).Nodup

section
variable {pc : Tid → Pc} {ws q : Eid → List Tid} {t u : Tid} {p q0 : Pc} {e : Eid} {rest : List Tid}

theorem Queued.move (h : Queued pc ws q) (hq : pc t = q0) (hp : waitOf p = waitOf q0) : Queued (upd pc t p) ws q :=
  ⟨fun t' e' => by rw [upd_congr waitOf hq hp]; exact h.1 t' e', h.2⟩

theorem Queued.enqueue (h : Queued pc ws q) (hq : pc t = q0) (h0 : waitOf q0 = none) (hp : waitOf p = some e) :
    Queued (upd pc t p) (upd ws e (ws e ++ [t])) q := by
  have ht : t ∉ ws e ++ q e := fun hm => by
    have := (h.1 t e).mpr (List.mem_append.mp hm); rw [hq, h0] at this; cases this
  refine ⟨fun t' e' => ?_, fun e' => ?_⟩
  · have := h.1 t' e'; grind
  · rw [upd_apply]; split
    · next he =>
      simpa only [he, List.append_assoc, List.perm_middle.nodup_iff, List.singleton_append, List.nodup_cons]
        using ⟨ht, h.2 e⟩
    · exact h.2 e'

theorem Queued.detach (h : Queued pc ws q) (hq : q e = []) : Queued pc (upd ws e []) (upd q e (ws e)) := by
  refine ⟨fun t' e' => ?_, fun e' => ?_⟩
  · have := h.1 t' e'; grind
  · by_cases he : e' = e
    · simpa only [he, upd_same, hq, List.nil_append, List.append_nil] using h.2 e
    · simpa only [upd_other _ _ _ _ he] using h.2 e'

theorem Queued.dequeue (h : Queued pc ws q) (hq : q e = u :: rest) (hp : waitOf p = none) :
    Queued (upd pc u p) ws (upd q e rest) := by
  have hu := (h.1 u e).mpr (.inr (hq ▸ List.mem_cons_self))
  have hnd : u ∉ ws e ++ rest ∧ (ws e ++ rest).Nodup := by
    simpa only [hq, List.perm_middle.nodup_iff, List.nodup_cons] using h.2 e
  refine ⟨fun t' e' => ?_, fun e' => ?_⟩
  · have hnu := hnd.1; clear hnd; have := h.1 t' e'; grind
  · rw [upd_apply]; split
    · next he => exact he ▸ hnd.2
    · exact h.2 e'
end

/-- the clauses of `Inv` about one entry alone, with its owner, lock and queue -/
structure EntryOK (next : Nat) (e : Eid) (en : Entry) (ow lk : Option Tid) (qu : List Tid) : Prop where
  ok : OK en
  fetching_owner : en.status = .fetching ↔ ow ≠ none
  queue_locked : qu ≠ [] → lk ≠ none
  locked : lk ≠ none → en.status ≠ .fetching ∧ en.status ≠ .unknown ∧ en.waiters = []
  pristine : next ≤ e.n → en.status = .unknown ∧ en.waiters = [] ∧ en.expiredAt = 0 ∧ ow = none ∧ lk = none ∧ qu = []

/-- `Inv` in parts: three links between threads and entries, the positions one by one, the entries one by one -/
structure InvP (s : State) : Prop where
  now_nonneg : 0 ≤ s.now
  owner : Linked fetchOf s.pc s.owner
  lock : Linked drainOf s.pc s.lock
  queued : Queued s.pc (fun e => (s.entries e).waiters) s.queue
  pcs : ∀ t, PcOK s.next (s.pc t)
  entries : ∀ e, EntryOK s.next e (s.entries e) (s.owner e) (s.lock e) (s.queue e)
  shard_alloc : ∀ k e, s.shard k = some e → e.n < s.next ∧ (s.entries e).key = k

theorem Inv.parts {s : State} (h : Inv s) : InvP s where
  now_nonneg := h.now_nonneg
  owner t e := ⟨h.fetch_owner t e, h.owner_fetch t e⟩
  lock t e := ⟨h.drain_lock t e, h.lock_drain t e⟩
  queued := ⟨fun t e => ⟨h.wait_where t e, fun hm => hm.elim (h.mem_wait t e) (h.queue_wait t e)⟩, h.nodup⟩
  pcs t := ⟨h.woken_status t, h.done_pos t, h.ref_alloc t⟩
  entries e := ⟨h.entry_ok e, ⟨h.fetching_owner e, h.owner_fetching e⟩, h.queue_locked e, h.locked_status e, h.pristine e⟩
  shard_alloc := h.shard_alloc

theorem InvP.inv {s : State} (h : InvP s) : Inv s where
  now_nonneg := h.now_nonneg
  entry_ok e := (h.entries e).ok
  fetch_owner t e := (h.owner t e).mp
  owner_fetch t e := (h.owner t e).mpr
  fetching_owner e := (h.entries e).fetching_owner.mp
  owner_fetching e := (h.entries e).fetching_owner.mpr
  wait_where t e := (h.queued.1 t e).mp
  mem_wait t e hm := (h.queued.1 t e).mpr (.inl hm)
  queue_wait t e hm := (h.queued.1 t e).mpr (.inr hm)
  nodup := h.queued.2
  queue_locked e := (h.entries e).queue_locked
  drain_lock t e := (h.lock t e).mp
  lock_drain t e := (h.lock t e).mpr
  locked_status e := (h.entries e).locked
  woken_status t := (h.pcs t).woken
  done_pos t := (h.pcs t).done_pos
  ref_alloc t := (h.pcs t).ref
  shard_alloc := h.shard_alloc
  pristine e := (h.entries e).pristine

section
variable {s : State} (h : InvP s) {t : Tid} {e : Eid} {p : Pc}
include h

theorem InvP.alloc {q : Pc} (hq : s.pc t = q) (hr : refOf q = some e) : e.n < s.next := (h.pcs t).ref e (hq ▸ hr)

/-- a thread moves to a position of the same classes -/
theorem inv_pc_only {q : Pc} {u : Tid → Nat} (hq : s.pc t = q)
    (hf : fetchOf p = fetchOf q) (hw : waitOf p = waitOf q) (hd : drainOf p = drainOf q) (hp : PcOK s.next p) :
    InvP { s with pc := upd s.pc t p, ups := u } :=
  { h with owner := h.owner.move hq hf, lock := h.lock.move hq hd, queued := h.queued.move hq hw,
           pcs := upd_forall t hp h.pcs }

theorem inv_shard_none {st : Key → Option Rec} (k : Key) : InvP { s with shard := upd s.shard k none, store := st } :=
  { h with shard_alloc := fun k' e' => by have := h.shard_alloc k' e'; grind }

/-- `initFromStore` and the expiry test on an allocated entry that nobody holds locked -/
theorem inv_renew {en : Entry} (hr : Renew (s.entries e) en) (hl : s.lock e = none) (hal : e.n < s.next) :
    InvP { s with entries := upd s.entries e en } :=
  { h with
    queued := by simpa only [upd_congr Entry.waiters rfl hr.waiters] using h.queued
    entries := fun e' => by
      by_cases he : e' = e
      · subst he; simp only [upd_same]
        have old := h.entries e'
        exact { old with
          ok := hr.ok
          fetching_owner := ⟨fun hf => old.fetching_owner.mp (hr.fetching hf),
                             fun ho => by rw [hr.keeps (old.fetching_owner.mpr ho)]; exact old.fetching_owner.mpr ho⟩
          locked := fun hl' => absurd hl hl'
          pristine := fun he' => absurd hal (Nat.not_lt.mpr he') }
      · simpa only [upd_other _ _ _ _ he] using h.entries e'
    shard_alloc := by simpa only [upd_congr Entry.key rfl hr.key] using h.shard_alloc }

/-- a thread that looked `e` up while it is `fetching` joins its waiters -/
theorem inv_register (hpc : s.pc t = .looked e) (hst : (s.entries e).status = .fetching) {en : Entry}
    (hen : en = { s.entries e with waiters := (s.entries e).waiters ++ [t] })
    (hf : fetchOf p = none) (hw : waitOf p = some e) (hd : drainOf p = none) (hp : PcOK s.next p) :
    InvP { s with entries := upd s.entries e en, pc := upd s.pc t p } :=
  { h with
    owner := h.owner.move hpc hf, lock := h.lock.move hpc hd, pcs := upd_forall t hp h.pcs
    queued := by simpa only [upd_comp Entry.waiters, hen] using h.queued.enqueue hpc rfl hw
    entries := fun e' => by
      by_cases he : e' = e
      · subst he hen; simp only [upd_same]
        have old := h.entries e'
        exact { old with
          ok := ⟨old.ok.exp_zero, old.ok.exp_nonzero, old.ok.hit_resp, fun _ => hst⟩
          locked := fun hl' => absurd hst (old.locked hl').1
          pristine := fun he' => absurd (h.alloc hpc rfl) (Nat.not_lt.mpr he') }
      · simpa only [upd_other _ _ _ _ he] using h.entries e'
    shard_alloc := by
      simpa only [upd_congr Entry.key (rfl : s.entries e = _) (b := en) (by rw [hen])] using h.shard_alloc }

/-- a thread that looked `e` up while nobody fetches it becomes its fetcher -/
theorem inv_claim (hpc : s.pc t = .looked e) (hl : s.lock e = none) (hnf : (s.entries e).status ≠ .fetching)
    {en : Entry} (hok : OK en) (hk : en.key = (s.entries e).key) (hfe : en.status = .fetching) (hwn : en.waiters = [])
    (hf : fetchOf p = some e) (hw : waitOf p = none) (hd : drainOf p = none) (hp : PcOK s.next p) :
    InvP { s with entries := upd s.entries e en, pc := upd s.pc t p, owner := upd s.owner e (some t) } :=
  have old := h.entries e
  have hown : s.owner e = none := Decidable.by_contra fun ho => hnf (old.fetching_owner.mpr ho)
  have hW := upd_congr Entry.waiters (rfl : s.entries e = _) (hwn.trans (old.ok.waiters_nil hnf).symm)
  { h with
    owner := h.owner.link hpc rfl hf hown, lock := h.lock.move hpc hd, pcs := upd_forall t hp h.pcs
    queued := by simpa only [hW] using h.queued.move hpc hw
    entries := fun e' => by
      by_cases he : e' = e
      · subst he; simp only [upd_same]
        exact { old with
          ok := hok
          fetching_owner := ⟨fun _ => nofun, fun _ => hfe⟩
          locked := fun hl' => absurd hl hl'
          pristine := fun he' => absurd (h.alloc hpc rfl) (Nat.not_lt.mpr he') }
      · simpa only [upd_other _ _ _ _ he] using h.entries e'
    shard_alloc := by simpa only [upd_congr Entry.key rfl hk] using h.shard_alloc }

/-- the fetcher of `e` writes the outcome, takes the lock and detaches the waiter list -/
theorem inv_complete {o : Outcome} {fl : List (Key × Nat × Int × Int)} (hpc : s.pc t = .fetchDone e o)
    (hl : s.lock e = none) {en : Entry} (hok : OK en) (hk : en.key = (s.entries e).key)
    (hnf : en.status ≠ .fetching) (hnu : en.status ≠ .unknown) (hwn : en.waiters = [])
    (hf : fetchOf p = none) (hw : waitOf p = none) (hd : drainOf p = some e) (hp : PcOK s.next p) :
    InvP { s with entries := upd s.entries e en, lock := upd s.lock e (some t), owner := upd s.owner e none,
                  queue := upd s.queue e (s.entries e).waiters, pc := upd s.pc t p, fetched := fl } :=
  have hqe : s.queue e = [] := Decidable.by_contra fun hne => (h.entries e).queue_locked hne hl
  { h with
    owner := h.owner.unlink hpc rfl hf, lock := h.lock.link hpc rfl hd hl, pcs := upd_forall t hp h.pcs
    queued := by simpa only [upd_comp Entry.waiters, hwn] using (h.queued.detach hqe).move hpc hw
    entries := fun e' => by
      by_cases he : e' = e
      · subst he; simp only [upd_same]
        exact ⟨hok, ⟨fun hf => absurd hf hnf, fun ho => absurd rfl ho⟩, fun _ => nofun, fun _ => ⟨hnf, hnu, hwn⟩,
               fun he' => absurd (h.alloc hpc rfl) (Nat.not_lt.mpr he')⟩
      · simpa only [upd_other _ _ _ _ he] using h.entries e'
    shard_alloc := by simpa only [upd_congr Entry.key rfl hk] using h.shard_alloc }

/-- the first detached waiter of `e` is woken and leaves the queue -/
theorem inv_send {u : Tid} {rest : List Tid} (hq : s.queue e = u :: rest) (hpu : s.pc u = .parked e)
    (hf : fetchOf p = none) (hw : waitOf p = none) (hd : drainOf p = none) (hp : PcOK s.next p) :
    InvP { s with pc := upd s.pc u p, queue := upd s.queue e rest } :=
  { h with
    owner := h.owner.move hpu hf, lock := h.lock.move hpu hd, pcs := upd_forall u hp h.pcs
    queued := h.queued.dequeue hq hw
    entries := fun e' => by
      by_cases he : e' = e
      · subst he; simp only [upd_same]
        have old := h.entries e'
        exact { old with
          queue_locked := fun _ => old.queue_locked (hq ▸ List.cons_ne_nil _ _)
          pristine := fun he' => absurd (h.alloc hpu rfl) (Nat.not_lt.mpr he') }
      · simpa only [upd_other _ _ _ _ he] using h.entries e' }

/-- the drainer of `e` has sent to every detached waiter, unlocks and leaves -/
theorem inv_saved {o : Outcome} {st : Key → Option Rec} (hpc : s.pc t = .draining e o) (hq : s.queue e = [])
    (hf : fetchOf p = none) (hw : waitOf p = none) (hd : drainOf p = none) (hp : PcOK s.next p) :
    InvP { s with pc := upd s.pc t p, lock := upd s.lock e none, store := st } :=
  { h with
    owner := h.owner.move hpc hf, lock := h.lock.unlink hpc rfl hd, pcs := upd_forall t hp h.pcs
    queued := h.queued.move hpc hw
    entries := fun e' => by
      by_cases he : e' = e
      · subst he; simp only [upd_same]
        exact { h.entries e' with
          queue_locked := fun hne => absurd hq hne
          locked := fun hn => absurd rfl hn
          pristine := fun he' => absurd (h.alloc hpc rfl) (Nat.not_lt.mpr he') }
      · simpa only [upd_other _ _ _ _ he] using h.entries e' }

/-- an entry for `k` is created and filed -/
theorem inv_alloc (k : Key) :
    InvP { s with next := s.next + 1, entries := upd s.entries ⟨s.next⟩ { key := k },
                  shard := upd s.shard k (some ⟨s.next⟩) } :=
  -- the new entry differs from the pristine one in its place at most in key, response and creation time
  have ⟨_, hwn, _, how, hlk, hqu⟩ := (h.entries ⟨s.next⟩).pristine (Nat.le_refl _)
  { h with
    queued := by simpa only [upd_congr (b := { key := k }) Entry.waiters rfl hwn.symm] using h.queued
    pcs := fun t => ⟨(h.pcs t).woken, (h.pcs t).done_pos, fun e he => Nat.lt_succ_of_lt ((h.pcs t).ref e he)⟩
    entries := fun e' => by
      by_cases he : e' = ⟨s.next⟩
      · subst he; simp only [upd_same]
        exact ⟨ok_fresh k, ⟨fun hf => (nomatch hf), fun ho => absurd how ho⟩, fun hne => absurd hqu hne,
               fun hl => absurd hlk hl, fun he' => absurd he' (Nat.not_succ_le_self _)⟩
      · simp only [upd_other _ _ _ _ he]
        exact { h.entries e' with pristine := fun he' => (h.entries e').pristine (Nat.le_of_succ_le he') }
    shard_alloc := fun k' e' => by have := h.shard_alloc k' e'; grind }

end

theorem completeEntry_ok (o : Outcome) (now hfp : Int) (old : Entry) (hnn : 0 ≤ now)
    (hpos : ∀ ttl r, o = .cacheable ttl r → 0 < ttl) :
    Entry.OK (completeEntry o now hfp old) ∧ (completeEntry o now hfp old).waiters = []
    ∧ (completeEntry o now hfp old).status ≠ .fetching ∧ (completeEntry o now hfp old).status ≠ .unknown
    ∧ (completeEntry o now hfp old).key = old.key := by
  cases o with
  | cacheable ttl r =>
    have := hpos ttl r rfl
    exact ⟨⟨nofun, fun _ => by simp only [completeEntry, Entry.cacheable]; omega, nofun, nofun⟩, rfl, nofun, nofun, rfl⟩
  | fail =>
    have : 0 < hfpTtl hfp := by
      unfold hfpTtl; split
      · decide
      · omega
    exact ⟨⟨nofun, fun _ => by simp only [completeEntry, Entry.hitForPass]; omega, nofun, nofun⟩, rfl, nofun, nofun, rfl⟩

theorem InvP.step {s s' : State} {ev : Event} (h : InvP s) (hs : Step s ev s') : InvP s' := by
  cases hs with
  | arrive hpc | arrivePass hpc | upEndPass hpc | age hpc | resumePass hpc =>
    exact inv_pc_only h hpc rfl rfl rfl (.of_ref nofun)
  | lookupHit hpc hsh =>
    exact inv_pc_only h hpc rfl rfl rfl (.of_ref fun _ he => Option.some.inj he ▸ (h.shard_alloc _ _ hsh).1)
  | lookupMiss hpc =>
    exact inv_pc_only (inv_alloc h _) hpc rfl rfl rfl (.of_ref fun _ he => Option.some.inj he ▸ Nat.lt_succ_self _)
  | drop | purge => exact inv_shard_none h _
  | park hpc | resumeHit hpc => exact inv_pc_only h hpc rfl rfl rfl (.of_ref (hpc ▸ h.pcs _).ref)
  | upEndFetch hpc hpos =>
    exact inv_pc_only h hpc rfl rfl rfl
      (.of_ref (hpc ▸ h.pcs _).ref (hfd := fun _ ttl r he => hpos ttl r (Pc.fetchDone.inj he).2))
  | resumeFetching hpc => exact ((h.pcs _).woken _ _ _ hpc).elim nofun nofun
  | tick hd => exact { h with now_nonneg := Int.add_nonneg h.now_nonneg (Int.le_of_lt hd) }
  | crash =>
    refine Inv.parts ?_
    constructor <;> intros
    case now_nonneg => exact h.now_nonneg
    case entry_ok => exact ⟨fun _ => rfl, (·.elim nofun nofun), nofun, nofun⟩
    case nodup => exact List.nodup_nil
    case pristine => exact ⟨rfl, rfl, rfl, rfl, rfl, rfl⟩
    -- every thread is idle and nothing is owned, locked, queued or filed
    all_goals contradiction
  | @complete t hfp e o hpc hl =>
    obtain ⟨hok, hw, hnf, hnu, hk⟩ :=
      completeEntry_ok o s.now hfp (s.entries e) h.now_nonneg fun ttl r ho => (h.pcs t).done_pos e ttl r (ho ▸ hpc)
    exact inv_complete h hpc hl hok hk hnf hnu hw rfl rfl rfl (.of_ref (hpc ▸ h.pcs _).ref)
  | send hpc hq hpu =>
    -- `e` is locked while its queue is not empty, and a locked entry is neither `fetching` nor `unknown`
    have ⟨hnf, hnu, _⟩ := (h.entries _).locked ((h.entries _).queue_locked (hq ▸ List.cons_ne_nil _ _))
    exact inv_send h hq hpu rfl rfl rfl
      (.of_ref (hpu ▸ h.pcs _).ref (hwk := fun _ _ _ he => by cases he; exact Status.hit_or_pass hnf hnu))
  | saved hpc hq => exact inv_saved h hpc hq rfl rfl rfl (.of_ref nofun)
  | @getWait t so e en hpc hl hg =>
    obtain ⟨-, -, e1, hr, hst, rfl⟩ := get_spec (h.entries e).ok hg
    have hf := hr.fetching hst
    exact inv_register h hpc hf (by rw [hr.keeps hf]) rfl rfl rfl (.of_ref (hpc ▸ h.pcs t).ref)
  | @getFetch t so e en hpc hl hg =>
    obtain ⟨hok, hk, e1, hr, hst, rfl⟩ := get_spec (h.entries e).ok hg
    have hnf : (s.entries e).status ≠ .fetching := fun hf => by rw [hr.keeps hf, hf] at hst; cases hst
    exact inv_claim h hpc hl hnf hok hk rfl rfl rfl rfl rfl (.of_ref (hpc ▸ h.pcs t).ref)
  | @getPass t so e en hpc hl hg =>
    obtain ⟨-, -, e1, hr, -, rfl⟩ := get_spec (h.entries e).ok hg
    exact inv_pc_only (inv_renew h hr hl (h.alloc hpc rfl)) hpc rfl rfl rfl (.of_ref nofun)
  | @getHit t so e en r hpc hl hg =>
    obtain ⟨-, -, e1, hr, -, rfl, -⟩ := get_spec (h.entries e).ok hg
    exact inv_pc_only (inv_renew h hr hl (h.alloc hpc rfl)) hpc rfl rfl rfl (.of_ref (hpc ▸ h.pcs t).ref)

/-- every event preserves the invariant -/
theorem Inv.step {s s' : State} {ev : Event} (h : Inv s) (hs : Step s ev s') : Inv s' := (h.parts.step hs).inv

theorem inv_step {s s' : State} (h : Inv s) (ev : Event) (hs : step false s ev = some s') : Inv s' :=
  h.step (.of_step hs)

/-- the invariant holds in every reachable state: any number of threads and keys, any schedule,
any clock behaviour, any store and upstream behaviour, purges, evictions and crashes -/
theorem inv_reachable {s : State} (h : Reachable false s) : Inv s :=
  reachable_induction inv_init Inv.step h

end Sys
end Pike
