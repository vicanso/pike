import Pike.Model.Sys
/-
`Sys.step false` as a relation.  Every proof about what a step does goes through `Step`: its constructors are the
enabled branches of `step`, each with its guard as hypotheses and the new state written out, so that a proof by
`cases` gets one goal per branch with everything named.  `Step.of_step` is the only place that unfolds `step`.
In front of it the few facts about `upd` the proofs use; after it induction along runs.
-/
namespace Pike
namespace Sys
open Entry

/-- an update that leaves the observation `c` as it was at the updated point leaves it as it was everywhere -/
theorem upd_congr {α β γ : Type} [DecidableEq α] (c : β → γ) {f : α → β} {a : α} {b q : β} (hq : f a = q) (h : c b = c q)
    (x : α) : c (upd f a b x) = c (f x) := by
  rw [upd_apply]; split
  · next hx => rw [hx, hq, h]
  · rfl

theorem upd_forall {α β : Type} [DecidableEq α] {P : β → Prop} {f : α → β} {b : β} (a : α) (hb : P b) (hf : ∀ x, P (f x))
    (x : α) : P (upd f a b x) := by
  rw [upd_apply]; split
  · exact hb
  · exact hf x

theorem upd_comp {α β γ : Type} [DecidableEq α] (c : β → γ) (f : α → β) (a : α) (b : β) (x : α) :
    c (upd f a b x) = upd (fun y => c (f y)) a (c b) x := by
  rw [upd_apply, upd_apply]; split <;> rfl

theorem upd_self {α β : Type} [DecidableEq α] (f : α → β) (a : α) : upd f a (f a) = f := by
  funext x; rw [upd_apply]; split <;> simp [*]

inductive Step : State → Event → State → Prop
  | arrive {s t k} (hpc : s.pc t = .idle) : Step s (.arrive t k) { s with pc := upd s.pc t (.arrived k) }
  | arrivePass {s t} (hpc : s.pc t = .idle) : Step s (.arrivePass t) { s with pc := upd s.pc t .passUp }
  | lookupHit {s t k e} (hpc : s.pc t = .arrived k) (hsh : s.shard k = some e) :
      Step s (.lookup t) { s with pc := upd s.pc t (.looked e) }
  | lookupMiss {s t k} (hpc : s.pc t = .arrived k) (hsh : s.shard k = none) :
      Step s (.lookup t) { s with next := s.next + 1, entries := upd s.entries ⟨s.next⟩ { key := k },
                                  shard := upd s.shard k (some ⟨s.next⟩), pc := upd s.pc t (.looked ⟨s.next⟩) }
  | drop {s k} : Step s (.drop k) { s with shard := upd s.shard k none }
  | purge {s k deleted} :
      Step s (.purge k deleted) { s with shard := upd s.shard k none, store := if deleted then upd s.store k none else s.store }
  | getFetch {s t so e en} (hpc : s.pc t = .looked e) (hl : s.lock e = none)
      (hg : Entry.get t s.now so (s.entries e) = (en, .fetch)) :
      Step s (.get t so) { s with entries := upd s.entries e en, pc := upd s.pc t (.fetchUp e), owner := upd s.owner e (some t) }
  | getWait {s t so e en} (hpc : s.pc t = .looked e) (hl : s.lock e = none)
      (hg : Entry.get t s.now so (s.entries e) = (en, .wait)) :
      Step s (.get t so) { s with entries := upd s.entries e en, pc := upd s.pc t (.registered e) }
  | getPass {s t so e en} (hpc : s.pc t = .looked e) (hl : s.lock e = none)
      (hg : Entry.get t s.now so (s.entries e) = (en, .pass)) :
      Step s (.get t so) { s with entries := upd s.entries e en, pc := upd s.pc t .passUp }
  | getHit {s t so e en r} (hpc : s.pc t = .looked e) (hl : s.lock e = none)
      (hg : Entry.get t s.now so (s.entries e) = (en, .hit r)) :
      Step s (.get t so) { s with entries := upd s.entries e en, pc := upd s.pc t (.hitServe e r) }
  | park {s t e} (hpc : s.pc t = .registered e) : Step s (.park t) { s with pc := upd s.pc t (.parked e) }
  | upEndFetch {s t e o} (hpc : s.pc t = .fetchUp e) (hpos : ∀ ttl r, o = .cacheable ttl r → 0 < ttl) :
      Step s (.upEnd t o) { s with pc := upd s.pc t (.fetchDone e o), ups := upd s.ups t (s.ups t + 1) }
  | upEndPass {s t o} (hpc : s.pc t = .passUp) :
      Step s (.upEnd t o) { s with pc := upd s.pc t (.done .passed), ups := upd s.ups t (s.ups t + 1) }
  | complete {s t hfp e o} (hpc : s.pc t = .fetchDone e o) (hl : s.lock e = none) :
      Step s (.complete t hfp)
        { s with entries := upd s.entries e (completeEntry o s.now hfp (s.entries e)), lock := upd s.lock e (some t),
                 owner := upd s.owner e none, queue := upd s.queue e (s.entries e).waiters, pc := upd s.pc t (.draining e o),
                 fetched := match (generalizing := false) o with
                   | .cacheable ttl r => ((s.entries e).key, r, s.now, s.now + ttl) :: s.fetched
                   | .fail => s.fetched }
  | send {s t e o u rest} (hpc : s.pc t = .draining e o) (hq : s.queue e = u :: rest) (hpu : s.pc u = .parked e) :
      Step s (.send t) { s with pc := upd s.pc u (.woken e (s.entries e).status (s.entries e).resp), queue := upd s.queue e rest }
  | saved {s t ok e o} (hpc : s.pc t = .draining e o) (hq : s.queue e = []) :
      Step s (.saved t ok)
        { s with pc := upd s.pc t (.done (.fetched o)), lock := upd s.lock e none,
                 store := if s.hasStore ∧ ok then upd s.store (s.entries e).key (some (Entry.toRec (s.entries e))) else s.store }
  | resumeHit {s t e r} (hpc : s.pc t = .woken e .hit r) : Step s (.resume t) { s with pc := upd s.pc t (.hitServe e r) }
  | resumePass {s t e st r} (hpc : s.pc t = .woken e st r) (hst : st = .hitForPass ∨ st = .unknown) :
      Step s (.resume t) { s with pc := upd s.pc t .passUp }
  | resumeFetching {s t e r} (hpc : s.pc t = .woken e .fetching r) : Step s (.resume t) { s with pc := upd s.pc t (.fetchUp e) }
  | age {s t e r} (hpc : s.pc t = .hitServe e r) (hl : s.lock e = none) :
      Step s (.age t) { s with pc := upd s.pc t (.done (.hit r (Entry.age s.now (s.entries e)))) }
  | tick {s d} (hd : 0 < d) : Step s (.tick d) { s with now := s.now + d }
  | crash {s} :
      Step s .crash
        { s with shard := fun _ => none, pc := fun _ => .idle, lock := fun _ => none, owner := fun _ => none,
                 queue := fun _ => [], ups := fun _ => 0,
                 entries := fun e => { s.entries e with waiters := [], status := .unknown, expiredAt := 0 } }

theorem Step.of_step {s s' : State} {ev : Event} (h : step false s ev = some s') : Step s ev s' := by
  cases ev with
  | arrive t k => simp only [step] at h; split at h <;> cases h; exact .arrive ‹_›
  | arrivePass t => simp only [step] at h; split at h <;> cases h; exact .arrivePass ‹_›
  | lookup t =>
    simp only [step] at h
    split at h
    · split at h <;> cases h
      · exact .lookupHit ‹_› ‹_›
      · exact .lookupMiss ‹_› ‹_›
    · cases h
  | drop k => cases h; exact .drop
  | purge k d => cases h; exact .purge
  | get t so =>
    simp only [step] at h
    split at h
    · split at h
      · generalize hg : Entry.get t s.now so (s.entries _) = g at h
        obtain ⟨en, got⟩ := g
        cases h
        cases got
        · exact .getFetch ‹_› ‹_› hg
        · exact .getWait ‹_› ‹_› hg
        · exact .getPass ‹_› ‹_› hg
        · exact .getHit ‹_› ‹_› hg
      · cases h
    · cases h
  | park t => simp only [step] at h; split at h <;> cases h; exact .park ‹_›
  | upEnd t o =>
    simp only [step] at h
    split at h
    · split at h
      · split at h <;> cases h
        exact .upEndFetch ‹_› (by intro _ _ h; cases h; assumption)
      · cases h; exact .upEndFetch ‹_› (by intro _ _ h; cases h)
    · cases h; exact .upEndPass ‹_›
    · cases h
  | complete t hfp =>
    simp only [step] at h
    split at h
    · split at h <;> cases h
      exact .complete ‹_› ‹_›
    · cases h
  | send t =>
    simp only [step] at h
    split at h
    · split at h
      · split at h <;> cases h
        exact .send ‹_› ‹_› ‹_›
      · cases h
    · cases h
  | saved t ok =>
    simp only [step] at h
    split at h
    · split at h <;> cases h
      exact .saved ‹_› (Decidable.not_not.mp ‹_›)
    · cases h
  | resume t =>
    simp only [step, Bool.false_eq_true, if_false] at h
    split at h
    · rename_i e st r hpc
      cases h
      cases st
      · exact .resumePass hpc (.inr rfl)
      · exact .resumeFetching hpc
      · exact .resumePass hpc (.inl rfl)
      · exact .resumeHit hpc
    · cases h
  | age t =>
    simp only [step] at h
    split at h
    · split at h <;> cases h
      exact .age ‹_› ‹_›
    · cases h
  | tick d => simp only [step] at h; split at h <;> cases h; exact .tick ‹_›
  | crash => cases h; exact .crash

/-- a `get` step read forwards: given what `Entry.get` returns, where the caller goes and what else changes -/
theorem Step.get_eq {s s' : State} {t : Tid} {so : Load} {e : Eid} {en : Entry} {g : Got} (h : Step s (.get t so) s')
    (hpc : s.pc t = .looked e) (hg : Entry.get t s.now so (s.entries e) = (en, g)) :
    s'.pc = upd s.pc t (match g with
      | .fetch => .fetchUp e | .wait => .registered e | .pass => .passUp | .hit r => .hitServe e r)
    ∧ s'.entries = upd s.entries e en ∧ s'.queue = s.queue ∧ s'.lock = s.lock ∧ s'.fetched = s.fetched := by
  cases h with
  | getFetch hpc' _ hg' | getWait hpc' _ hg' | getPass hpc' _ hg' | getHit hpc' _ hg' =>
    cases hpc.symm.trans hpc'; cases hg.symm.trans hg'; exact ⟨rfl, rfl, rfl, rfl, rfl⟩

theorem saved_queue_empty {s s' : State} {t : Tid} {e : Eid} {o : Outcome} {ok : Bool}
    (hpc : s.pc t = .draining e o) (hs : Step s (.saved t ok) s') : s.queue e = [] := by
  cases hs with
  | saved hpc' hq => cases hpc.symm.trans hpc'; exact hq

/-- what every step preserves is kept along every run -/
theorem run_induction {P : State → Prop} (hstep : ∀ {s ev s'}, P s → Step s ev s' → P s') :
    ∀ {evs : List Event} {s s' : State}, P s → run false s evs = some s' → P s'
  | [], _, _, h, hr => Option.some.inj hr ▸ h
  | ev :: evs, s, s', h, hr => by
    simp only [run] at hr
    split at hr
    · next h1 => exact run_induction hstep (hstep h (.of_step h1)) hr
    · cases hr

theorem reachable_induction {P : State → Prop} (h0 : ∀ now hs, 0 ≤ now → P (init now hs))
    (hstep : ∀ {s ev s'}, P s → Step s ev s' → P s') {s : State} (h : Reachable false s) : P s := by
  obtain ⟨now, hs, evs, hn, hr⟩ := h
  exact run_induction hstep (h0 now hs hn) hr

end Sys
end Pike
