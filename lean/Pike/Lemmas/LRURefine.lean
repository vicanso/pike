import Pike.Lemmas.LRU
namespace Pike
namespace LRU

/-- the key ↦ entry map a dispatcher denotes (what `Sys.State.shard` abstracts) -/
def absMap (hash : Str → Nat) (d : Disp) : Str → Option Nat :=
  fun k => (find (d.shards (hash k % d.zones)) k).map (·.eid)

/-- every resident item sits in the shard its key hashes to -/
def Placed (hash : Str → Nat) (d : Disp) : Prop := ∀ i, ∀ it ∈ d.shards i, hash it.key % d.zones = i

theorem find_erase (s : Shard) (k k' : Str) : find (erase s k) k' = if k' = k then none else find s k' := by
  unfold find erase
  -- `find?` over a filter is `find?` for the conjunction of the two tests
  rw [List.find?_filter]
  split
  next h => simp [h]
  next h => congr 1; funext x; by_cases hx : x.key = k' <;> simp [hx, h]

/-- with distinct keys, a front part of a list finds what the whole list finds, except the keys of the rest -/
theorem find_append_left {l r : Shard} (hn : ((l ++ r).map (·.key)).Nodup) (k : Str) :
    find l k = if k ∈ r.map (·.key) then none else find (l ++ r) k := by
  rw [List.map_append, List.nodup_append] at hn
  have : find (l ++ r) k = (find l k).or (find r k) := List.find?_append
  split
  next hk => exact find_eq_none.mpr fun hl => hn.2.2 k hl k hk rfl
  next hk => rw [this, find_eq_none.mpr hk, Option.or_none]

variable {hash : Str → Nat} {d : Disp} {k : Str}

theorem placed_init (hash : Str → Nat) (zones cap : Nat) : Placed hash (init zones cap) := nofun

theorem placed_step (h : Placed hash d) : ∀ op, Placed hash (step hash d op)
  | .get k => by
    unfold Placed step
    rw [(lookup_params ..).1]
    exact forall_shards_lookup (Q := fun j k' _ => hash k' % d.zones = j) h rfl
  | .purge k => fun j x hx => h j x ((remove_sublist d _ k j).subset hx)

theorem placed_run (hash : Str → Nat) (h : Placed hash d) (ops : List Op) : Placed hash (run hash d ops) :=
  run_induction (P := Placed hash) hash (fun _ op h' => placed_step h' op) h ops

/-- hit: a lookup of a resident key changes nothing in the key ↦ entry map
(`Sys.step (.lookup t)` with `shard k = some e`) -/
theorem absMap_lookup_hit {it : Item} (hf : find (d.shards (hash k % d.zones)) k = some it) :
    absMap hash (lookup d (hash k % d.zones) k).1 = absMap hash d := by
  funext k'
  simp only [absMap, lookup_hit hf, updF]
  split
  next hz =>
    rw [hz, touch, find_cons, find_erase, (find_some hf).2]
    split
    next hk => rw [← hk, hf]; rfl
    next hk => rw [if_neg (Ne.symm hk)]
  next => rfl

/-- miss: a lookup of a key that is not resident maps it to a brand-new entry and removes at
most the shard's least recently used key — exactly `Sys.step (.drop v)` (if a victim exists)
followed by the creating branch of `Sys.step (.lookup t)` -/
theorem absMap_lookup_miss (hi : Inv d) (hp : Placed hash d) (hf : find (d.shards (hash k % d.zones)) k = none)
    (k' : Str) :
    absMap hash (lookup d (hash k % d.zones) k).1 k' =
      if k' = k then some d.next
      else if k' ∈ (victim d.cap (d.shards (hash k % d.zones)) ⟨k, d.next, d.clock⟩).toList.map (·.key) then none
      else absMap hash d k' := by
  obtain ⟨t, hI, ht⟩ := insert_eq d.cap (d.shards (hash k % d.zones)) ⟨k, d.next, d.clock⟩
  simp only [absMap, lookup_miss hf, updF]
  split
  next hz =>
    -- the shard of `k`: the new item in front of the old shard without the victim
    rw [hz, hI, find_cons, find_append_left (ht ▸ (hi.shard _).nodup), ht]
    simp only [apply_ite (Option.map _), eq_comm (a := k)]
    rfl
  next hz =>
    -- another shard: untouched, and the victim (if any) lives in the shard of `k`
    rw [if_neg fun e : k' = k => hz (e ▸ rfl), if_neg]
    intro hv
    obtain ⟨v, hvm, rfl⟩ := List.mem_map.mp hv
    exact hz (hp _ v (ht ▸ List.mem_append_right t hvm))

/-- purge: `RemoveHTTPCache` unmaps exactly that key (`Sys.step (.purge k _)` on the shard map) -/
theorem absMap_remove (hash : Str → Nat) (d : Disp) (k k' : Str) :
    absMap hash (remove d (hash k % d.zones) k) k' = if k' = k then none else absMap hash d k' := by
  simp only [absMap, remove, updF]
  split
  next hz => rw [hz, find_erase]; split <;> rfl
  next hz => rw [if_neg fun e : k' = k => hz (e ▸ rfl)]

end LRU
end Pike
