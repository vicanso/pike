import Pike.Model.Entry
/-
What `load`, `expireIf`, `getCore` and hence `get` do, case by case.  `load_cases`, `expireIf_cases` and `getCore_spec`
are the only places that unfold the three functions.
-/
namespace Pike

theorem Status.hit_or_pass {st : Status} (hf : st ≠ .fetching) (hu : st ≠ .unknown) : st = .hit ∨ st = .hitForPass := by
  cases st <;> simp at *

namespace Entry

/-- per-entry well-formedness that does not mention threads -/
structure OK (en : Entry) : Prop where
  exp_zero : en.status = .fetching ∨ en.status = .unknown → en.expiredAt = 0
  exp_nonzero : en.status = .hit ∨ en.status = .hitForPass → en.expiredAt ≠ 0
  hit_resp : en.status = .hit → en.resp ≠ none
  waiters_fetching : en.waiters ≠ [] → en.status = .fetching

theorem ok_fresh (k : Key) : OK { key := k } := ⟨fun _ => rfl, by simp, by simp, by simp⟩

theorem OK.waiters_nil {e : Entry} (h : OK e) (hs : e.status ≠ .fetching) : e.waiters = [] :=
  Decidable.by_contra fun hw => hs (h.waiters_fetching hw)

theorem Rec.valid_iff {r : Rec} :
    Rec.valid r = true ↔ ((r.status = .hit ∧ r.resp ≠ none) ∨ r.status = .hitForPass) ∧ r.expiredAt ≠ 0 := by
  simp [Rec.valid, Option.isSome_iff_ne_none]

theorem load_cases (e : Entry) (so : Load) :
    load e so = e ∨ ∃ r, e.status = .unknown ∧ so = .record r ∧ Rec.valid r = true ∧
      load e so = { e with status := r.status, resp := r.resp, createdAt := r.createdAt, expiredAt := r.expiredAt } := by
  unfold load
  split
  · split
    · split
      · exact .inr ⟨_, ‹_›, rfl, ‹_›, rfl⟩
      · exact .inl rfl
    · exact .inl rfl
  · exact .inl rfl

theorem load_keeps {e : Entry} (so : Load) (h : e.status ≠ .unknown) : load e so = e :=
  (load_cases e so).resolve_right fun ⟨_, hu, _⟩ => h hu

theorem expireIf_cases (now : Int) (e : Entry) :
    (expireIf now e = e ∧ (e.expiredAt = 0 ∨ now ≤ e.expiredAt))
    ∨ (expireIf now e = { e with status := .unknown, expiredAt := 0 } ∧ e.expiredAt ≠ 0 ∧ e.expiredAt < now) := by
  unfold expireIf
  split
  · exact .inr ⟨rfl, ‹_›⟩
  · exact .inl ⟨rfl, by omega⟩

theorem expireIf_fresh {now : Int} {e : Entry} (h : e.expiredAt = 0 ∨ now ≤ e.expiredAt) : expireIf now e = e :=
  (expireIf_cases now e).elim And.left fun ⟨_, h0, hlt⟩ => by omega

theorem expireIf_expired {now : Int} {e : Entry} (hx : e.expiredAt ≠ 0) (hlt : e.expiredAt < now) :
    expireIf now e = { e with status := .unknown, expiredAt := 0 } :=
  (expireIf_cases now e).elim (fun ⟨_, h⟩ => by omega) And.left

/-- `getCore` by what it returns -/
theorem getCore_spec {t : Tid} {x en : Entry} {g : Got} (h : getCore t x = (en, g)) :
    match (generalizing := false) g with
    | .wait => x.status = .fetching ∧ en = { x with waiters := x.waiters ++ [t] }
    | .fetch => x.status = .unknown ∧ en = { x with status := .fetching, waiters := [] }
    | .pass => x.status = .hitForPass ∧ en = x
    | .hit r => x.status = .hit ∧ en = x ∧ r = x.resp := by
  unfold getCore at h
  split at h <;> cases h
  · exact ⟨‹_›, rfl⟩
  · exact ⟨‹_›, rfl⟩
  · exact ⟨‹_›, rfl⟩
  · exact ⟨‹_›, rfl, rfl⟩

/-- `e'` is `e` after `initFromStore` and the expiry test: the cached state may have been renewed, but key and waiter
list stay and a fetch in flight is left alone. -/
structure Renew (e e' : Entry) : Prop where
  ok : OK e'
  key : e'.key = e.key
  waiters : e'.waiters = e.waiters
  keeps : e.status = .fetching → e' = e
  fetching : e'.status = .fetching → e.status = .fetching

theorem Renew.refl {e : Entry} (h : OK e) : Renew e e := ⟨h, rfl, rfl, fun _ => rfl, id⟩

theorem Renew.trans {e e1 e2 : Entry} (h1 : Renew e e1) (h2 : Renew e1 e2) : Renew e e2 where
  ok := h2.ok
  key := h2.key.trans h1.key
  waiters := h2.waiters.trans h1.waiters
  keeps h := by have := h1.keeps h; subst this; exact h2.keeps h
  fetching h := h1.fetching (h2.fetching h)

theorem load_renew {e : Entry} (h : OK e) (so : Load) : Renew e (load e so) := by
  rcases load_cases e so with heq | ⟨r, hu, -, hv, heq⟩ <;> rw [heq]
  · exact .refl h
  · have ⟨hst, hx⟩ := Rec.valid_iff.mp hv
    have hw := h.waiters_nil (by simp [hu])
    exact ⟨⟨by grind, fun _ => hx, by grind, by simp [hw]⟩, rfl, rfl, by simp [hu], by grind⟩

theorem expireIf_renew {e : Entry} (h : OK e) (now : Int) : Renew e (expireIf now e) := by
  rcases expireIf_cases now e with ⟨heq, -⟩ | ⟨heq, hx, -⟩ <;> rw [heq]
  · exact .refl h
  · have hnf : e.status ≠ .fetching := fun hf => hx (h.exp_zero (.inl hf))
    exact ⟨⟨fun _ => rfl, by simp, by simp, by simp [h.waiters_nil hnf]⟩, rfl, rfl, fun hf => absurd hf hnf, by simp⟩

theorem getCore_cases (t : Tid) (x : Entry) (h : OK x) :
    OK (getCore t x).1 ∧ (getCore t x).1.key = x.key ∧
    ((x.status = .fetching ∧ (getCore t x).2 = .wait ∧ (getCore t x).1 = { x with waiters := x.waiters ++ [t] })
    ∨ (x.status ≠ .fetching ∧ x.waiters = [] ∧ (getCore t x).1.waiters = [] ∧
        (((getCore t x).2 = .fetch ∧ (getCore t x).1.status = .fetching)
        ∨ ((getCore t x).2 = .pass ∧ (getCore t x).1.status = .hitForPass)
        ∨ (∃ r, (getCore t x).2 = .hit r ∧ (getCore t x).1.status = .hit ∧ (getCore t x).1.resp = r)))) := by
  rcases hg : getCore t x with ⟨en, g⟩
  have hc := getCore_spec hg
  cases g with
  | wait =>
    obtain ⟨hs, rfl⟩ := hc
    exact ⟨⟨h.exp_zero, h.exp_nonzero, h.hit_resp, fun _ => hs⟩, rfl, .inl ⟨hs, rfl, rfl⟩⟩
  | fetch =>
    obtain ⟨hs, rfl⟩ := hc
    have hnf : x.status ≠ .fetching := by simp [hs]
    exact ⟨⟨fun _ => h.exp_zero (.inr hs), (·.elim nofun nofun), nofun, nofun⟩, rfl,
      .inr ⟨hnf, h.waiters_nil hnf, rfl, .inl ⟨rfl, rfl⟩⟩⟩
  | pass =>
    obtain ⟨hs, rfl⟩ := hc
    have hnf : en.status ≠ .fetching := by simp [hs]
    exact ⟨h, rfl, .inr ⟨hnf, h.waiters_nil hnf, h.waiters_nil hnf, .inr (.inl ⟨rfl, hs⟩)⟩⟩
  | hit r =>
    obtain ⟨hs, rfl, rfl⟩ := hc
    have hnf : en.status ≠ .fetching := by simp [hs]
    exact ⟨h, rfl, .inr ⟨hnf, h.waiters_nil hnf, h.waiters_nil hnf, .inr (.inr ⟨_, rfl, hs, rfl⟩)⟩⟩

/-- `get` by what it returns: `e1` is the entry after `initFromStore` and the expiry test -/
theorem get_spec {t : Tid} {now : Int} {so : Load} {e en : Entry} {g : Got} (h : OK e) (hg : get t now so e = (en, g)) :
    OK en ∧ en.key = e.key ∧ ∃ e1, Renew e e1 ∧
      match (generalizing := false) g with
      | .wait => e1.status = .fetching ∧ en = { e1 with waiters := e1.waiters ++ [t] }
      | .fetch => e1.status = .unknown ∧ en = { e1 with status := .fetching, waiters := [] }
      | .pass => e1.status = .hitForPass ∧ en = e1
      | .hit r => e1.status = .hit ∧ en = e1 ∧ r = e1.resp := by
  have hr := (load_renew h so).trans (expireIf_renew (load_renew h so).ok now)
  obtain ⟨hok, hk, -⟩ := getCore_cases t _ hr.ok
  rw [show getCore t _ = _ from hg] at hok hk
  exact ⟨hok, hk.trans hr.key, _, hr, getCore_spec hg⟩

theorem getCore_hit {t : Tid} {x : Entry} (h : (getCore t x).1.status = .hit) :
    x.status = .hit ∧ getCore t x = (x, .hit x.resp) := by
  rcases hg : getCore t x with ⟨en, g⟩
  have hc := getCore_spec hg
  rw [hg] at h
  cases g with
  | hit r => obtain ⟨hs, rfl, rfl⟩ := hc; exact ⟨hs, rfl⟩
  | wait | pass => obtain ⟨hs, he⟩ := hc; rw [he] at h; exact nomatch hs.symm.trans h
  | fetch => obtain ⟨-, rfl⟩ := hc; cases h

/-- where a hit comes from: the entry already held it, or a valid record was just loaded; and it
is not past its expiry second -/
theorem get_hit_prov (t : Tid) (now : Int) (so : Load) (e : Entry) (h : OK e)
    (hh : (get t now so e).1.status = .hit) :
    ((e.status = .hit ∧ (get t now so e).1.resp = e.resp ∧ (get t now so e).1.createdAt = e.createdAt
        ∧ (get t now so e).1.expiredAt = e.expiredAt)
     ∨ (e.status = .unknown ∧ ∃ rec, so = .record rec ∧ rec.status = .hit ∧ (get t now so e).1.resp = rec.resp
        ∧ (get t now so e).1.createdAt = rec.createdAt ∧ (get t now so e).1.expiredAt = rec.expiredAt))
    ∧ now ≤ (get t now so e).1.expiredAt ∧ (get t now so e).2 = .hit (get t now so e).1.resp := by
  -- `get` reports a hit for the entry as `initFromStore` and the expiry test left it: they did not expire it,
  obtain ⟨hst, hget⟩ := getCore_hit hh
  rw [get, hget]
  rcases expireIf_cases now (load e so) with ⟨hx, hle⟩ | ⟨hx, -⟩ <;> rw [hx] at hst ⊢
  · refine ⟨?_, hle.resolve_left ((load_renew h so).ok.exp_nonzero (.inl hst)), rfl⟩
    -- and it is `e` itself or `e` with the fields of a valid record
    rcases load_cases e so with hl | ⟨rec, hu, rfl, -, hl⟩ <;> rw [hl] at hst ⊢
    · exact .inl ⟨hst, rfl, rfl, rfl⟩
    · exact .inr ⟨hu, rec, rfl, hst, rfl, rfl, rfl⟩
  · cases hst

theorem get_known {e : Entry} (t : Tid) (now : Int) (so : Load) (h : e.status ≠ .unknown) :
    get t now so e = getCore t (expireIf now e) := by
  rw [get, load_keeps so h]

theorem get_fetching {e : Entry} (t : Tid) (now : Int) (so : Load) (hst : e.status = .fetching) (hx : e.expiredAt = 0) :
    get t now so e = ({ e with waiters := e.waiters ++ [t] }, .wait) := by
  rw [get_known t now so (by simp [hst]), expireIf_fresh (.inl hx), getCore, hst]

theorem get_pass {e : Entry} (t : Tid) (now : Int) (so : Load) (hst : e.status = .hitForPass) (hv : now ≤ e.expiredAt) :
    get t now so e = (e, .pass) := by
  rw [get_known t now so (by simp [hst]), expireIf_fresh (.inr hv), getCore, hst]

theorem get_expired {e : Entry} (t : Tid) (now : Int) (so : Load) (hst : e.status = .hit ∨ e.status = .hitForPass)
    (hx : e.expiredAt ≠ 0) (hexp : e.expiredAt < now) :
    get t now so e = ({ e with status := .fetching, expiredAt := 0, waiters := [] }, .fetch) := by
  rw [get_known t now so (by rcases hst with h | h <;> simp [h]), expireIf_expired hx hexp]
  rfl

end Entry
end Pike
