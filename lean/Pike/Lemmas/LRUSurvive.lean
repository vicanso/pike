import Pike.Lemmas.LRU
/-
How long a resident entry stays resident: its rank in the recency list of its shard grows by at most one per
operation on another key, and the entry is dropped only from the last place of a full shard.  So an entry that
was just used (rank 0) survives any `cap - 1` further operations — the quantitative content of C01's
"as long as the key's entry is not evicted during the fetch" and of C11's "the least recently used key is the one
dropped".
-/
namespace Pike
namespace LRU

/-- rank (0 = most recently used) and entry id of key `k` in a shard -/
def rk : Shard → Str → Option (Nat × Nat)
  | [], _ => none
  | x :: s, k => if x.key = k then some (0, x.eid) else (rk s k).map (fun pe => (pe.1 + 1, pe.2))

theorem rk_cons_eq_some {x : Item} {s : Shard} {k : Str} {p e : Nat} :
    rk (x :: s) k = some (p, e) ↔
      (x.key = k ∧ 0 = p ∧ x.eid = e) ∨ (x.key ≠ k ∧ ∃ q, rk s k = some (q, e) ∧ q + 1 = p) := by
  by_cases h : x.key = k <;> simp [rk, h]

/-- `rk` is `find` together with the position -/
theorem rk_eid (s : Shard) (k : Str) : (rk s k).map (·.2) = (find s k).map (·.eid) := by
  induction s with
  | nil => rfl
  | cons x s ih => rw [find_cons, rk]; split <;> simp [← ih, Function.comp_def]

theorem rk_find {s : Shard} {k : Str} {p e : Nat} (h : rk s k = some (p, e)) : ∃ it, find s k = some it ∧ it.eid = e :=
  Option.map_eq_some_iff.mp ((rk_eid s k).symm.trans (congrArg _ h))

theorem find_rk {s : Shard} {k : Str} {it : Item} (h : find s k = some it) : ∃ p, rk s k = some (p, it.eid) := by
  obtain ⟨⟨p, e⟩, hp, rfl⟩ := Option.map_eq_some_iff.mp ((rk_eid s k).trans (congrArg _ h))
  exact ⟨p, hp⟩

/-- removing another key does not push `k` back -/
theorem rk_erase {s : Shard} {k k' : Str} {p e : Nat} (hne : k' ≠ k) (h : rk s k = some (p, e)) :
    ∃ q, q ≤ p ∧ rk (erase s k') k = some (q, e) := by
  induction s generalizing p with
  | nil => simp [rk] at h
  | cons x s ih =>
    unfold erase
    rw [List.filter_cons]
    rcases rk_cons_eq_some.mp h with ⟨hx, rfl, rfl⟩ | ⟨hx, p, hr, rfl⟩
    · exact ⟨0, Nat.le_refl 0, by rw [if_pos (by simpa [hx] using hne.symm), rk, if_pos hx]⟩
    · obtain ⟨q, hq, hrq⟩ := ih hr
      split
      · exact ⟨q + 1, Nat.succ_le_succ hq, rk_cons_eq_some.mpr (.inr ⟨hx, q, hrq, rfl⟩)⟩
      · exact ⟨q, Nat.le_succ_of_le hq, hrq⟩

/-- dropping the last item leaves everything that is not last where it was -/
theorem rk_dropLast {s : Shard} {k : Str} {p e : Nat} (h : rk s k = some (p, e)) (hp : p + 1 < s.length) :
    rk s.dropLast k = some (p, e) := by
  induction s generalizing p with
  | nil => simp [rk] at h
  | cons x s ih =>
    cases s with
    | nil => simp at hp
    | cons y s =>
      rw [List.dropLast_cons_cons]
      rcases rk_cons_eq_some.mp h with h0 | ⟨hx, p, hr, rfl⟩
      · exact rk_cons_eq_some.mpr (.inl h0)
      · exact rk_cons_eq_some.mpr (.inr ⟨hx, p, ih hr (by simpa using hp), rfl⟩)

/-- one operation of the shard on ANOTHER key: the rank of `k` grows by at most one, and `k` stays as long as it
was not in the last place of a full shard -/
theorem rk_touch {s : Shard} {k : Str} {it : Item} {now p e : Nat} (hne : it.key ≠ k) (h : rk s k = some (p, e)) :
    ∃ q, q ≤ p + 1 ∧ rk (touch s it now) k = some (q, e) := by
  obtain ⟨q, hq, hr⟩ := rk_erase hne h
  exact ⟨q + 1, Nat.succ_le_succ hq, rk_cons_eq_some.mpr (.inr ⟨hne, q, hr, rfl⟩)⟩

/-- `insert` keeps every rank below the limit -/
theorem rk_insert_of_lt {cap : Nat} {s : Shard} {k : Str} {it : Item} {p e : Nat} (h : rk (it :: s) k = some (p, e))
    (hp : cap = 0 ∨ p < cap) : rk (insert cap s it) k = some (p, e) := by
  simp only [insert]
  split
  next hc => exact rk_dropLast h (by omega)
  next => exact h

theorem rk_insert {cap : Nat} {s : Shard} {k : Str} {it : Item} {p e : Nat} (hne : it.key ≠ k)
    (h : rk s k = some (p, e)) (hlen : cap ≠ 0 → s.length ≤ cap) (hroom : cap = 0 ∨ p + 1 < cap) :
    rk (insert cap s it) k = some (p + 1, e) :=
  rk_insert_of_lt (rk_cons_eq_some.mpr (.inr ⟨hne, p, h, rfl⟩)) hroom

def Op.mentions (k : Str) : Op → Bool
  | .get k' => k' = k
  | .purge k' => k' = k

/-- right after its own lookup a key is at the front of its shard, with the entry the lookup returned -/
theorem rk_after_lookup (d : Disp) (i : Nat) (k : Str) :
    rk ((lookup d i k).1.shards i) k = some (0, (lookup d i k).2.1) := by
  cases hf : find (d.shards i) k with
  | some it => simp only [lookup_hit hf, updF_same]; exact rk_cons_eq_some.mpr (.inl ⟨(find_some hf).2, rfl, rfl⟩)
  | none =>
    simp only [lookup_miss hf, updF_same]
    exact rk_insert_of_lt (rk_cons_eq_some.mpr (.inl ⟨rfl, rfl, rfl⟩)) (by omega)

theorem find_after_lookup (d : Disp) (i : Nat) (k : Str) :
    ∃ it, find ((lookup d i k).1.shards i) k = some it ∧ it.eid = (lookup d i k).2.1 :=
  rk_find (rk_after_lookup d i k)

/-- one dispatcher operation on another key moves `k` back by at most one place in its shard -/
theorem step_keeps (hash : Str → Nat) {d : Disp} (hInv : Inv d) (k : Str) (op : Op) (hop : op.mentions k = false)
    {p e : Nat} (h : rk (d.shards (hash k % d.zones)) k = some (p, e)) (hroom : d.cap = 0 ∨ p + 1 < d.cap) :
    ∃ q, q ≤ p + 1 ∧ rk ((step hash d op).shards (hash k % d.zones)) k = some (q, e) := by
  -- the operation replaces one shard `j`; that matters only if `j` is the shard of `k`
  obtain ⟨j, s', hs', hrk⟩ : ∃ j s', (step hash d op).shards = updF d.shards j s' ∧
      (hash k % d.zones = j → ∃ q, q ≤ p + 1 ∧ rk s' k = some (q, e)) := by
    cases op with
    | get k' =>
      have hne : k' ≠ k := by simpa [Op.mentions] using hop
      cases hf : find (d.shards (hash k' % d.zones)) k' with
      | some it =>
        exact ⟨_, _, by rw [step, lookup_hit hf], fun hj => rk_touch ((find_some hf).2 ▸ hne) (hj ▸ h)⟩
      | none =>
        exact ⟨_, _, by rw [step, lookup_miss hf],
          fun hj => ⟨p + 1, Nat.le_refl _, rk_insert hne (hj ▸ h) (hInv.shard _).len hroom⟩⟩
    | purge k' =>
      have hne : k' ≠ k := by simpa [Op.mentions] using hop
      refine ⟨_, _, rfl, fun hj => ?_⟩
      obtain ⟨q, hq, hr⟩ := rk_erase hne (hj ▸ h)
      exact ⟨q, Nat.le_succ_of_le hq, hr⟩
  rw [hs']
  unfold updF
  split
  next hj => exact hrk hj
  next => exact ⟨p, Nat.le_succ p, h⟩

/-- any run of operations on OTHER keys that is shorter than the room behind `k` leaves `k` resident, with the
same entry -/
theorem run_keeps (hash : Str → Nat) {d : Disp} (hInv : Inv d) (k : Str) (ops : List Op)
    (hops : ∀ op ∈ ops, op.mentions k = false) {p e : Nat}
    (h : rk (d.shards (hash k % d.zones)) k = some (p, e)) (hroom : d.cap = 0 ∨ p + ops.length < d.cap) :
    ∃ q, q ≤ p + ops.length ∧ rk ((run hash d ops).shards (hash k % d.zones)) k = some (q, e) := by
  induction ops generalizing d p with
  | nil => exact ⟨p, Nat.le_refl p, h⟩
  | cons op ops ih =>
    rw [List.forall_mem_cons] at hops
    rw [List.length_cons] at hroom ⊢
    obtain ⟨q, hq, hr⟩ := step_keeps hash hInv k op hops.1 h (by omega)
    obtain ⟨q', hq', hr'⟩ := ih (inv_step hash hInv op) hops.2 (by simpa using hr) (by simp; omega)
    simp only [step_params] at hr'
    exact ⟨q', by omega, hr'⟩

end LRU
end Pike
