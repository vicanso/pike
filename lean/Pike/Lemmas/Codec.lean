import Pike.Model.Codec
namespace Pike
namespace Codec

theorem b_toNat (n : Nat) : (b n).toNat = n % 256 := by
  have hv : (n % 256).isValidChar := by unfold Nat.isValidChar; omega
  simp [b, Char.ofNat, hv, Char.ofNatAux, Char.toNat]

@[simp] theorem u32_length (n : Nat) : (u32 n).length = 4 := rfl
@[simp] theorem u64_length (x : Int) : (u64 x).length = 8 := rfl

/-- one base-256 digit: the digit of weight `m` extends `n % m` to `n % (m * 256)` -/
theorem digit_mod (n m : Nat) : n / m % 256 * m + n % m = n % (m * 256) := by
  rw [Nat.mod_mul, Nat.mul_comm, Nat.add_comm]

/-- the sum of the four digits, associated to the right, collapses from the low end by `digit_mod` -/
theorem readU32_u32_mod (n : Nat) (r : Str) : readU32 (u32 n ++ r) = some (n % 4294967296, r) := by
  simp only [u32, readU32, List.cons_append, List.nil_append, b_toNat, Nat.add_assoc, digit_mod, Nat.reduceMul]

theorem readU32_u32 {n : Nat} (h : n < 4294967296) (r : Str) : readU32 (u32 n ++ r) = some (n, r) := by
  rw [readU32_u32_mod, Nat.mod_eq_of_lt h]

/-- two's complement: `toI64` undoes the reduction modulo 2^64 on the int64 range -/
theorem toI64_wrap {x : Int} (h1 : -9223372036854775808 ≤ x) (h2 : x < 9223372036854775808) :
    toI64 (x % 18446744073709551616).toNat = x := by
  grind [toI64]

theorem readU64_u64 {x : Int} (h1 : -9223372036854775808 ≤ x) (h2 : x < 9223372036854775808) (r : Str) :
    readU64 (u64 x ++ r) = some (x, r) := by
  simp only [u64, readU64, List.cons_append, List.nil_append, b_toNat, Nat.add_assoc, digit_mod, Nat.reduceMul]
  rw [Nat.mod_eq_of_lt (by omega), toI64_wrap h1 h2]

theorem readU32_short {s : Str} (h : s.length < 4) : readU32 s = none := by
  unfold readU32
  split
  · simp +arith at h
  · rfl

theorem readU64_short {s : Str} (h : s.length < 8) : readU64 s = none := by
  unfold readU64
  split
  · simp +arith at h
  · rfl

theorem readU32_some {s r : Str} {n : Nat} (h : readU32 s = some (n, r)) : ∃ p, p.length = 4 ∧ s = p ++ r := by
  unfold readU32 at h
  split at h
  · cases h; exact ⟨[_, _, _, _], rfl, rfl⟩
  · cases h

/-- a read that succeeded does not depend on what follows the bytes it saw -/
theorem readU32_append {s r : Str} {n : Nat} (h : readU32 s = some (n, r)) (t : Str) :
    readU32 (s ++ t) = some (n, r ++ t) := by
  unfold readU32 at h
  split at h
  · cases h; rfl
  · cases h

theorem readU32_length {s r : Str} {n : Nat} (h : readU32 s = some (n, r)) : r.length + 4 = s.length := by
  obtain ⟨p, hp, rfl⟩ := readU32_some h
  rw [List.length_append, hp, Nat.add_comm]

theorem readU64_length {s r : Str} {x : Int} (h : readU64 s = some (x, r)) : r.length + 8 = s.length := by
  unfold readU64 at h
  split at h
  · cases h; rfl
  · cases h

theorem readField_enc {x : Str} (h : x.length < 4294967296) (r : Str) :
    readField (u32 x.length ++ (x ++ r)) = some (x, r) := by
  simp [readField, readU32_u32 h]

theorem readField_some {s a r : Str} (h : readField s = some (a, r)) :
    ∃ n r0, readU32 s = some (n, r0) ∧ a = r0.take n ∧ r = r0.drop n := by
  unfold readField at h
  split at h
  · cases h
  · cases h; exact ⟨_, _, ‹_›, rfl, rfl⟩

theorem readField_split {s a r : Str} (h : readField s = some (a, r)) : ∃ p, p.length = 4 ∧ s = p ++ (a ++ r) := by
  obtain ⟨n, r0, h0, rfl, rfl⟩ := readField_some h
  obtain ⟨p, hp, rfl⟩ := readU32_some h0
  exact ⟨p, hp, by rw [List.take_append_drop]⟩

theorem readField_length {s a r : Str} (h : readField s = some (a, r)) : a.length + r.length + 4 = s.length := by
  obtain ⟨p, hp, rfl⟩ := readField_split h
  simp only [List.length_append, hp]
  omega

/-- decoding never manufactures bytes: every variable-length field of the result is a slice of the input -/
theorem readField_infix {s a r : Str} (h : readField s = some (a, r)) : a <:+: s ∧ r <:+ s := by
  obtain ⟨p, -, rfl⟩ := readField_split h
  exact ⟨⟨p, r, by simp⟩, ⟨p ++ a, by simp⟩⟩

variable {H : Type}

/-- field sizes the 32-bit length prefixes can carry -/
structure RespWF (c : HCodec H) (r : Resp H) : Prop where
  srv : r.compressSrv.length < 4294967296
  minLen : r.minLength < 4294967296
  filter : r.filter.length < 4294967296
  filterOK : r.filter ≠ [] → c.reOK r.filter = true
  hdr : (c.enc r.header).length < 4294967296
  hdrRT : c.dec (c.enc r.header) = some r.header
  code : r.statusCode < 4294967296
  gz : r.gzip.length < 4294967296
  br : r.br.length < 4294967296
  raw : r.raw.length < 4294967296

theorem decodeResp_nil (c : HCodec H) : decodeResp c [] = some (zeroResp c) := rfl

/-- `decodeResp` read forwards: the ten steps that make it succeed.  It is stated about variables because the
same `simp` walk through `decodeResp c (encodeResp c r)` itself elaborates but is not accepted by the kernel (deep
recursion in a conversion check); likewise `decodeEntry_steps`. -/
theorem decodeResp_steps {c : HCodec H} {data srv r1 r2 filter r3 hj r4 r5 gz r6 br r7 raw r8 : Str}
    {minLen code : Nat} {h : H}
    (hne : data.isEmpty = false)
    (h1 : readField data = some (srv, r1)) (h2 : readU32 r1 = some (minLen, r2))
    (h3 : readField r2 = some (filter, r3)) (hf : (!filter.isEmpty && !c.reOK filter) = false)
    (h4 : readField r3 = some (hj, r4)) (hd : c.dec hj = some h)
    (h5 : readU32 r4 = some (code, r5)) (h6 : readField r5 = some (gz, r6))
    (h7 : readField r6 = some (br, r7)) (h8 : readField r7 = some (raw, r8)) :
    decodeResp c data = some ⟨srv, minLen, filter, h, code, gz, br, raw⟩ := by
  simp only [decodeResp, hne, Bool.false_eq_true, if_false, h1, h2, h3, hf, h4, hd, h5, h6, h7, h8]

/-- the last field is read by its length, so bytes `t` after the record are ignored -/
theorem decodeResp_encodeResp (c : HCodec H) (r : Resp H) (wf : RespWF c r) (t : Str) :
    decodeResp c (encodeResp c r ++ t) = some r := by
  have hf : (!r.filter.isEmpty && !c.reOK r.filter) = false := by
    by_cases h : r.filter = []
    · simp [h]
    · simp [wf.filterOK h]
  unfold encodeResp
  repeat rw [List.append_assoc]
  exact decodeResp_steps rfl (readField_enc wf.srv _) (readU32_u32 wf.minLen _) (readField_enc wf.filter _) hf
    (readField_enc wf.hdr _) wf.hdrRT (readU32_u32 wf.code _) (readField_enc wf.gz _) (readField_enc wf.br _)
    (readField_enc wf.raw _)

structure EntryWF (c : HCodec H) (e : Entry H) : Prop where
  status : e.status < 4294967296
  resp : ∀ r, e.resp = some r → RespWF c r ∧ (encodeResp c r).length < 4294967296
  created : -9223372036854775808 ≤ e.createdAt ∧ e.createdAt < 9223372036854775808
  expired : -9223372036854775808 ≤ e.expiredAt ∧ e.expiredAt < 9223372036854775808

/-- what an entry looks like after a round trip: an absent response comes back as the empty one -/
def normalize (c : HCodec H) (e : Entry H) : Entry H :=
  { e with resp := some (e.resp.getD (zeroResp c)) }

theorem decodeEntry_steps {c : HCodec H} {data r0 rb r1 r2 r3 : Str} {st : Nat} {resp : Resp H} {cr ex : Int}
    (h0 : readU32 data = some (st, r0)) (h1 : readField r0 = some (rb, r1))
    (h2 : decodeResp c rb = some resp) (h3 : readU64 r1 = some (cr, r2)) (h4 : readU64 r2 = some (ex, r3)) :
    decodeEntry c data = some ⟨st, some resp, cr, ex⟩ := by
  simp only [decodeEntry, h0, h1, h2, h3, h4]

/-- bytes `t` after a record are ignored here too -/
theorem decodeEntry_encodeEntry_append (c : HCodec H) (e : Entry H) (wf : EntryWF c e) (t : Str) :
    decodeEntry c (encodeEntry c e ++ t) = some (normalize c e) := by
  -- `rb`: the response bytes inside the record, empty for an absent response
  obtain ⟨rb, hl, hd, henc⟩ : ∃ rb : Str, rb.length < 4294967296 ∧ decodeResp c rb = some (e.resp.getD (zeroResp c)) ∧
      encodeEntry c e ++ t = u32 e.status ++ (u32 rb.length ++ (rb ++ (u64 e.createdAt ++ (u64 e.expiredAt ++ t)))) := by
    unfold encodeEntry
    cases hr : e.resp with
    | none => exact ⟨[], by decide, decodeResp_nil c, by simp⟩
    | some r => exact ⟨_, (wf.resp r hr).2, by simpa using decodeResp_encodeResp c r (wf.resp r hr).1 [], by simp⟩
  rw [henc]
  exact decodeEntry_steps (readU32_u32 wf.status _) (readField_enc hl _) hd
    (readU64_u64 wf.created.1 wf.created.2 _) (readU64_u64 wf.expired.1 wf.expired.2 _)

theorem decodeEntry_encodeEntry (c : HCodec H) (e : Entry H) (wf : EntryWF c e) :
    decodeEntry c (encodeEntry c e) = some (normalize c e) := by
  simpa using decodeEntry_encodeEntry_append c e wf []

/-- a record that decodes carries, after its declared response size, the two timestamps -/
theorem decodeEntry_some_length {c : HCodec H} {data : Str} {e : Entry H} (h : decodeEntry c data = some e) :
    ∃ st n r0 r1, readU32 data = some (st, r0) ∧ readU32 r0 = some (n, r1) ∧ n + 16 ≤ r1.length := by
  revert h
  fun_cases decodeEntry c data <;> intro h <;> cases h
  next st r0 h0 _ _ h1 _ _ _ _ h2 _ _ h3 =>
    obtain ⟨n, r1, hn, -, rfl⟩ := readField_some h1
    have l2 := readU64_length h2
    have l3 := readU64_length h3
    rw [List.length_drop] at l2
    exact ⟨st, n, r0, r1, h0, hn, by omega⟩

theorem encodeEntry_length (c : HCodec H) (e : Entry H) :
    (encodeEntry c e).length = 24 + (match e.resp with | some r => (encodeResp c r).length | none => 0) := by
  unfold encodeEntry
  cases e.resp <;> simp <;> omega

end Codec
end Pike
