import Pike.Lemmas.SysInv
/- While a completer drains its waiters the entry keeps what the completion wrote (whatever the store does). -/
namespace Pike
namespace Sys
open Entry

/-- what the completion of a fetch with outcome `o` leaves in the entry -/
def Completed : Outcome → Entry → Prop
  | .cacheable _ r, en => en.status = .hit ∧ en.resp = some r
  | .fail, en => en.status = .hitForPass

theorem completeEntry_completed : ∀ (o : Outcome) (now hfp : Int) (old : Entry), Completed o (completeEntry o now hfp old)
  | .cacheable _ _, _, _, _ => ⟨rfl, rfl⟩
  | .fail, _, _, _ => rfl

def InvD (s : State) : Prop := ∀ t e o, s.pc t = .draining e o → Completed o (s.entries e)

theorem InvD.drain_hit {s : State} (h : InvD s) (t : Tid) (e : Eid) (ttl : Int) (r : Nat)
    (hpc : s.pc t = .draining e (.cacheable ttl r)) : (s.entries e).status = .hit ∧ (s.entries e).resp = some r :=
  h t e _ hpc

theorem invD_step {s s' : State} {ev : Event} (h : Inv s) (hd : InvD s) (hs : Step s ev s') : InvD s' := by
  intro t' e' o' hp
  -- the entry of a drainer is locked, and only entries that are not locked are written
  have hlk : s.pc t' = .draining e' o' → s.lock e' = some t' := fun hp0 => h.drain_lock t' e' (hp0 ▸ rfl)
  cases hs with
  | drop | purge | tick => exact hd t' e' o' hp
  | crash => cases hp
  | arrive | arrivePass | lookupHit | park | upEndFetch | upEndPass | resumeHit | resumePass | resumeFetching | age
  | send | saved =>
    simp only [upd_apply] at hp
    split at hp
    · cases hp
    · exact hd t' e' o' hp
  | lookupMiss =>
    -- the entry that is created was not locked
    have := hd t' e' o'; have := fun he : s.next ≤ e'.n => (h.pristine e' he).2.2.2.2.1; grind
  | getFetch _ hl | getWait _ hl | getPass _ hl | getHit _ hl => have := hd t' e' o'; grind
  | @complete t hfp e o _ hl =>
    have := hd t' e' o'; have := completeEntry_completed o s.now hfp (s.entries e); grind

theorem invD_reachable {s : State} (h : Reachable false s) : InvD s :=
  (reachable_induction (P := fun s => Inv s ∧ InvD s) (fun now hs hn => ⟨inv_init now hs hn, fun _ _ _ => nofun⟩)
    (fun h hs => ⟨h.1.step hs, invD_step h.1 h.2 hs⟩) h).2

end Sys
end Pike
