import Pike.Model.Reconfig
namespace Pike
namespace Reconfig

variable {V : Type}

theorem get_filter (m : Map V) (p : Str → Bool) (n : Str) :
    Map.get (m.filter fun e => p e.1) n = if p n then Map.get m n else none := by
  unfold Map.get
  rw [List.find?_filter]
  -- on the entries for `n` the two tests agree if `p n`, and the first fails if not
  split
  · next hp => congr 2; funext e; by_cases h : e.1 = n <;> simp [h, hp]
  · next hp => rw [List.find?_eq_none.mpr]; rfl; intro e _; by_cases h : e.1 = n <;> simp [h, hp]

theorem get_del (m : Map V) (k n : Str) : (m.del k).get n = if n = k then none else m.get n := by
  rw [Map.del, get_filter m (fun x => decide (x ≠ k))]
  by_cases h : n = k <;> simp [h]

theorem get_cons (k : Str) (v : V) (m : Map V) (n : Str) :
    Map.get ((k, v) :: m) n = if n = k then some v else Map.get m n := by
  rw [Map.get, List.find?_cons]
  by_cases h : k = n <;> simp [h, eq_comm (a := n), Map.get]

theorem get_put (m : Map V) (k : Str) (v : V) (n : Str) : (m.put k v).get n = if n = k then some v else m.get n := by
  rw [Map.put, get_cons, get_del]
  split <;> rfl

theorem get_stale (m : Map V) (keep : Str → Bool) (n : Str) :
    (stale m keep).get n = if keep n then m.get n else none := get_filter m keep n

/-- last configured value for a name -/
def lookup : List (Str × V) → Str → Option V
  | [], _ => none
  | e :: cs, n => (lookup cs n).or (if e.1 = n then some e.2 else none)

theorem lookup_isSome (cs : List (Str × V)) (n : Str) : (lookup cs n).isSome = (cs.map (·.1)).contains n := by
  induction cs with
  | nil => rfl
  | cons e cs ih =>
    rw [lookup, List.map_cons, List.contains_cons, ← ih]
    by_cases h : e.1 = n <;> cases lookup cs n <;> simp [h, eq_comm (a := n)]

theorem lookup_eq_none {cs : List (Str × V)} {n : Str} (h : (cs.map (·.1)).contains n = false) : lookup cs n = none := by
  rwa [← lookup_isSome, Option.isSome_eq_false_iff, Option.isNone_iff_eq_none] at h

section foldl
/- `rd` is how a state is read at a name; every step writes `g e.2` at `e.1` as far as `rd` can tell. -/
variable {σ E W : Type} (rd : σ → Str → Option W) (step : σ → Str × E → σ) (g : E → W)
  (hstep : ∀ s e n, rd (step s e) n = if n = e.1 then some (g e.2) else rd s n) (cs : List (Str × E)) (s : σ) (n : Str)
include hstep

/-- a fold of writes reads back the last write -/
theorem foldl_read : rd (cs.foldl step s) n = ((lookup cs n).map g).or (rd s n) := by
  induction cs generalizing s with
  | nil => rfl
  | cons e cs ih =>
    rw [List.foldl_cons, ih, hstep, lookup]
    cases lookup cs n <;> by_cases h : e.1 = n <;> simp [h, eq_comm (a := n)]

/-- … and nothing else, if it starts from a state cleared of the names that are not written (`stale`) -/
theorem foldl_read_stale (h0 : (cs.map (·.1)).contains n = false → rd s n = none) :
    rd (cs.foldl step s) n = (lookup cs n).map g := by
  rw [foldl_read rd step g hstep]
  cases h : lookup cs n with
  | some v => rfl
  | none => exact h0 (by rw [← lookup_isSome, h]; rfl)

end foldl

end Reconfig
end Pike
