import Pike.Model.Header
namespace Pike
namespace Header

theorem values_cons (e : Str × List Str) (h : Header) (k : Str) :
    values (e :: h) k = if e.1 = k then e.2 ++ values h k else values h k := rfl

theorem values_append (h g : Header) (k : Str) : values (h ++ g) k = values h k ++ values g k := by
  induction h with
  | nil => rfl
  | cons e h ih =>
    rw [List.cons_append, values_cons, values_cons, ih]
    split
    · rw [List.append_assoc]
    · rfl

theorem values_eq_nil {h : Header} {k : Str} (hk : ∀ e ∈ h, e.1 ≠ k) : values h k = [] := by
  induction h with
  | nil => rfl
  | cons e h ih =>
    rw [values_cons, if_neg (hk e List.mem_cons_self), ih fun e he => hk e (List.mem_cons_of_mem _ he)]

theorem values_filter_other (h : Header) (p : Str × List Str → Bool) (k : Str)
    (hp : ∀ e ∈ h, e.1 = k → p e = true) : values (h.filter p) k = values h k := by
  induction h with
  | nil => rfl
  | cons e h ih =>
    have ih := ih fun e he => hp e (List.mem_cons_of_mem _ he)
    by_cases hpe : p e = true
    · rw [List.filter_cons_of_pos hpe, values_cons, values_cons, ih]
    · rw [List.filter_cons_of_neg hpe, values_cons, if_neg fun hk => hpe (hp e List.mem_cons_self hk), ih]

/-- rewriting entries in place, those of key `k` excepted, leaves the values of `k` alone -/
theorem values_map_other (h : Header) (g : Str × List Str → Str × List Str) (k : Str)
    (hg : ∀ e, (g e).1 = e.1 ∧ (e.1 = k → g e = e)) : values (h.map g) k = values h k := by
  induction h with
  | nil => rfl
  | cons e h ih =>
    rw [List.map_cons, values_cons, values_cons, ih, (hg e).1]
    split
    · rw [(hg e).2 ‹_›]
    · rfl

theorem values_add_other (h : Header) (k k' v : Str) (hne : k' ≠ k) : values (h.add k v) k' = values h k' := by
  unfold add
  split
  · refine values_map_other h _ k' fun e => ?_
    split
    · exact ⟨rfl, fun he => absurd (he.symm.trans ‹e.1 = k›) hne⟩
    · exact ⟨rfl, fun _ => rfl⟩
  · rw [values_append, values_cons, if_neg hne.symm]
    exact List.append_nil _

theorem values_del_other (h : Header) (k k' : Str) (hne : k' ≠ k) : values (h.del k) k' = values h k' :=
  values_filter_other h _ k' fun e _ he => by simpa [he] using hne

theorem values_del_same (h : Header) (k : Str) : values (h.del k) k = [] :=
  values_eq_nil fun e he => by simpa [del] using (List.mem_filter.mp he).2

theorem values_set_other (h : Header) (k k' v : Str) (hne : k' ≠ k) : values (h.set k v) k' = values h k' := by
  rw [set, values_append, values_del_other h k k' hne, values_cons, if_neg hne.symm]
  exact List.append_nil _

theorem values_set_same (h : Header) (k v : Str) : values (h.set k v) k = [v] := by
  rw [set, values_append, values_del_same, values_cons, if_pos rfl]
  rfl

end Header
end Pike
