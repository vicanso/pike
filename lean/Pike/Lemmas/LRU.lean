import Pike.Model.LRU
namespace Pike
namespace LRU

/-- per-shard invariant: distinct keys, within capacity, recency list ordered by last access -/
structure ShardInv (cap clock : Nat) (s : Shard) : Prop where
  nodup : (s.map (·.key)).Nodup
  len : cap ≠ 0 → s.length ≤ cap
  sorted : s.Pairwise (fun a b => a.stamp > b.stamp)
  bound : ∀ it ∈ s, it.stamp < clock

section shard
variable {cap clock : Nat} {s t : Shard} {k : Str} {it x : Item}

theorem find_cons (x : Item) (s : Shard) (k : Str) : find (x :: s) k = if x.key = k then some x else find s k := by
  simp only [find, List.find?_cons]; split <;> simp_all

theorem find_some (h : find s k = some it) : it ∈ s ∧ it.key = k :=
  ⟨List.mem_of_find?_eq_some h, by simpa using List.find?_some h⟩

theorem find_eq_none : find s k = none ↔ k ∉ s.map (·.key) := by
  simp [find]

theorem erase_sublist (s : Shard) (k : Str) : (erase s k).Sublist s := List.filter_sublist

theorem not_mem_erase (s : Shard) (k : Str) : k ∉ (erase s k).map (·.key) := by
  simp [erase]

theorem erase_length_lt (h : it ∈ s) : (erase s it.key).length < s.length :=
  List.length_filter_lt_length_iff_exists.mpr ⟨it, h, by simp⟩

/-- `insert` puts the item in front of the shard without the victim (the last item of a full shard) -/
theorem insert_eq (cap : Nat) (s : Shard) (it : Item) :
    ∃ t, insert cap s it = it :: t ∧ t ++ (victim cap s it).toList = s := by
  simp only [insert, victim]
  split
  next hc =>
    cases s with
    | nil => exact absurd hc.2 (by simp; omega)
    | cons b s =>
      refine ⟨(b :: s).dropLast, List.dropLast_cons_cons, ?_⟩
      rw [List.getLast?_cons_cons, List.getLast?_eq_some_getLast (List.cons_ne_nil b s)]
      exact List.dropLast_concat_getLast _
  next => exact ⟨s, rfl, List.append_nil s⟩

theorem insert_sublist (cap : Nat) (s : Shard) (it : Item) : (insert cap s it).Sublist (it :: s) := by
  obtain ⟨t, hI, ht⟩ := insert_eq cap s it
  exact hI ▸ (ht ▸ List.sublist_append_left ..).cons_cons it

theorem ShardInv.sublist (h : ShardInv cap clock s) (ht : t.Sublist s) {clock' : Nat} (hc : clock ≤ clock') :
    ShardInv cap clock' t where
  nodup := h.nodup.sublist (ht.map _)
  len := fun h0 => Nat.le_trans ht.length_le (h.len h0)
  sorted := h.sorted.sublist ht
  bound := fun it hit => Nat.lt_of_lt_of_le (h.bound it (ht.subset hit)) hc

/-- a new key accessed at time `clock` goes in front (no limit on the length) -/
theorem ShardInv.cons (h : ShardInv cap clock s) (hk : x.key ∉ s.map (·.key)) (hx : x.stamp = clock) :
    ShardInv 0 (clock + 1) (x :: s) where
  nodup := List.nodup_cons.mpr ⟨hk, h.nodup⟩
  len := nofun
  sorted := List.pairwise_cons.mpr ⟨fun b hb => hx ▸ h.bound b hb, h.sorted⟩
  bound := List.forall_mem_cons.mpr ⟨hx ▸ Nat.lt_succ_self _, fun b hb => Nat.lt_succ_of_lt (h.bound b hb)⟩

theorem ShardInv.touch (h : ShardInv cap clock s) (hit : it ∈ s) : ShardInv cap (clock + 1) (touch s it clock) :=
  { (h.sublist (erase_sublist s it.key) (Nat.le_refl _)).cons (x := { it with stamp := clock })
      (not_mem_erase s it.key) rfl with
    len := fun h0 => Nat.le_trans (erase_length_lt hit) (h.len h0) }

theorem ShardInv.insert {e : Nat} (h : ShardInv cap clock s) (hk : k ∉ s.map (·.key)) :
    ShardInv cap (clock + 1) (insert cap s ⟨k, e, clock⟩) :=
  { (h.cons (x := ⟨k, e, clock⟩) hk rfl).sublist (insert_sublist ..) (Nat.le_refl _) with
    len := fun h0 => by
      simp only [LRU.insert]
      split
      next => simpa using h.len h0
      next hc => exact Nat.le_of_not_gt fun hgt => hc ⟨h0, hgt⟩ }

/-- the evicted entry is the least recently used one of its shard -/
theorem victim_is_oldest {e : Nat} {v : Item} (h : ShardInv cap clock s) (hv : victim cap s ⟨k, e, clock⟩ = some v) :
    ∀ x ∈ insert cap s ⟨k, e, clock⟩, v.stamp < x.stamp := by
  obtain ⟨t, hI, ht⟩ := insert_eq cap s ⟨k, e, clock⟩
  rw [hv] at ht
  subst ht
  rw [hI]
  exact List.forall_mem_cons.mpr ⟨h.bound v (by simp),
    fun x hx => (List.pairwise_append.mp h.sorted).2.2 x hx v (List.mem_singleton_self v)⟩

end shard

/-- dispatcher invariant -/
structure Inv (d : Disp) : Prop where
  shard : ∀ i, ShardInv d.cap d.clock (d.shards i)
  born : ∀ i, ∀ it ∈ d.shards i, (it.eid, it.key) ∈ d.born
  fresh : ∀ p ∈ d.born, p.1 < d.next
  uniq : ∀ e k k', (e, k) ∈ d.born → (e, k') ∈ d.born → k = k'

variable {d : Disp} {i : Nat} {k : Str}

theorem inv_init (zones cap : Nat) : Inv (init zones cap) where
  shard := fun _ => ⟨.nil, fun _ => Nat.zero_le _, .nil, nofun⟩
  born := nofun
  fresh := nofun
  uniq := nofun

theorem lookup_hit {it : Item} (h : find (d.shards i) k = some it) :
    lookup d i k =
      ({ d with shards := updF d.shards i (touch (d.shards i) it d.clock), clock := d.clock + 1 }, it.eid, false) := by
  simp only [lookup, h]

theorem lookup_miss (h : find (d.shards i) k = none) :
    lookup d i k =
      ({ d with shards := updF d.shards i (insert d.cap (d.shards i) ⟨k, d.next, d.clock⟩),
                next := d.next + 1, clock := d.clock + 1, born := (d.next, k) :: d.born }, d.next, true) := by
  simp only [lookup, h]

/-- Up to their stamps, the items in the shards after a lookup are those that were there and the one returned. -/
theorem forall_shards_lookup {Q : Nat → Str → Nat → Prop} (h : ∀ j, ∀ x ∈ d.shards j, Q j x.key x.eid)
    (hk : Q i k (lookup d i k).2.1) : ∀ j, ∀ x ∈ (lookup d i k).1.shards j, Q j x.key x.eid := by
  cases hf : find (d.shards i) k with
  | some it =>
    rw [lookup_hit hf] at hk ⊢
    refine forall_updF (P := fun j s => ∀ x ∈ s, Q j x.key x.eid) (fun x hx => ?_) h
    rcases List.mem_cons.mp hx with rfl | hx
    · exact (find_some hf).2 ▸ hk
    · exact h i x ((erase_sublist ..).subset hx)
  | none =>
    rw [lookup_miss hf] at hk ⊢
    refine forall_updF (P := fun j s => ∀ x ∈ s, Q j x.key x.eid) (fun x hx => ?_) h
    rcases List.mem_cons.mp ((insert_sublist ..).subset hx) with rfl | hx
    · exact hk
    · exact h i x hx

theorem inv_lookup (h : Inv d) (i : Nat) (k : Str) : Inv (lookup d i k).1 := by
  have hold (j) : ShardInv d.cap (d.clock + 1) (d.shards j) := (h.shard j).sublist (.refl _) (Nat.le_succ _)
  -- for the field `born`, in both cases: every item of the new shards is logged in the new `born`
  have hborn := forall_shards_lookup (d := d) (i := i) (k := k) (Q := fun _ k' e => (e, k') ∈ (lookup d i k).1.born)
  cases hf : find (d.shards i) k with
  | some it =>
    obtain ⟨hit, rfl⟩ := find_some hf
    rw [lookup_hit hf] at hborn ⊢
    exact { shard := forall_updF (P := fun _ => ShardInv _ _) ((h.shard i).touch hit) hold
            born := hborn h.born (h.born i it hit)
            fresh := h.fresh
            uniq := h.uniq }
  | none =>
    rw [lookup_miss hf] at hborn ⊢
    exact { shard := forall_updF (P := fun _ => ShardInv _ _) ((h.shard i).insert (find_eq_none.mp hf)) hold
            born := hborn (fun j x hx => List.mem_cons_of_mem _ (h.born j x hx)) List.mem_cons_self
            fresh := List.forall_mem_cons.mpr ⟨Nat.lt_succ_self _, fun p hp => Nat.lt_succ_of_lt (h.fresh p hp)⟩
            uniq := fun e k1 k2 h1 h2 => by
              have hnew {k'} : (d.next, k') ∉ d.born := fun hb => Nat.lt_irrefl _ (h.fresh _ hb)
              rcases List.mem_cons.mp h1 with h1 | h1 <;> rcases List.mem_cons.mp h2 with h2 | h2
              · cases h1; cases h2; rfl
              · cases h1; exact absurd h2 hnew
              · cases h2; exact absurd h1 hnew
              · exact h.uniq e k1 k2 h1 h2 }

theorem remove_sublist (d : Disp) (i : Nat) (k : Str) : ∀ j, ((remove d i k).shards j).Sublist (d.shards j) :=
  forall_updF (P := fun j s => s.Sublist (d.shards j)) (erase_sublist ..) fun _ => .refl _

theorem inv_remove (h : Inv d) (i : Nat) (k : Str) : Inv (remove d i k) where
  shard := fun j => (h.shard j).sublist (remove_sublist d i k j) (Nat.le_refl _)
  born := fun j x hx => h.born j x ((remove_sublist d i k j).subset hx)
  fresh := h.fresh
  uniq := h.uniq

theorem inv_step (hash : Str → Nat) (h : Inv d) : ∀ op, Inv (step hash d op)
  | .get _ => inv_lookup h ..
  | .purge _ => inv_remove h ..

@[simp] theorem lookup_params (d : Disp) (i : Nat) (k : Str) :
    (lookup d i k).1.zones = d.zones ∧ (lookup d i k).1.cap = d.cap := by
  unfold lookup; split <;> exact ⟨rfl, rfl⟩

@[simp] theorem step_params (hash : Str → Nat) (d : Disp) :
    ∀ op, (step hash d op).zones = d.zones ∧ (step hash d op).cap = d.cap
  | .get _ => lookup_params ..
  | .purge _ => ⟨rfl, rfl⟩

/-- what every operation preserves holds after a run -/
theorem run_induction {P : Disp → Prop} (hash : Str → Nat) (hstep : ∀ d op, P d → P (step hash d op))
    (h : P d) (ops : List Op) : P (run hash d ops) := by
  induction ops generalizing d with
  | nil => exact h
  | cons op ops ih => exact ih (hstep d op h)

theorem inv_run (hash : Str → Nat) (h : Inv d) (ops : List Op) : Inv (run hash d ops) :=
  run_induction (P := Inv) hash (fun _ op h' => inv_step hash h' op) h ops

@[simp] theorem run_params (hash : Str → Nat) (d : Disp) (ops : List Op) :
    (run hash d ops).zones = d.zones ∧ (run hash d ops).cap = d.cap :=
  run_induction (P := fun d' => d'.zones = d.zones ∧ d'.cap = d.cap) hash (fun _ _ h => by simpa using h) ⟨rfl, rfl⟩ ops

theorem resident_le (h : Inv d) (hc : d.cap ≠ 0) : resident d ≤ d.zones * d.cap := by
  unfold resident
  induction d.zones with
  | zero => simp
  | succ n ih =>
    have := (h.shard n).len hc
    simp only [List.range_succ, List.map_append, List.sum_append, Nat.succ_mul]
    simp
    omega

/-- a dispatcher with a per-shard limit never holds more than zones × limit keys -/
theorem resident_run_le (hash : Str → Nat) (zones : Nat) {cap : Nat} (hc : cap ≠ 0) (ops : List Op) :
    resident (run hash (init zones cap) ops) ≤ zones * cap := by
  have := resident_le (inv_run hash (inv_init zones cap) ops) (by rw [(run_params ..).2]; exact hc)
  rwa [(run_params ..).1, (run_params ..).2] at this

end LRU
end Pike
