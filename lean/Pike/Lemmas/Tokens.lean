import Pike.Base.Str
/- substring search vs. token membership in comma separated lists -/
namespace Pike
namespace Str

/-- a prefix free of the separator lies within the first field -/
theorem prefix_nosep_head {sep : Char} {p s f : Str} {fs : List Str}
    (hp : p <+: s) (hs : sep ∉ p) (h : splitOn sep s = f :: fs) : p <+: f := by
  obtain ⟨t, rfl⟩ := hp
  have hp : ∀ a ∈ p, (a != sep) = true := fun a ha => bne_iff_ne.mpr fun e => hs (e ▸ ha)
  rw [splitOn_head h, List.takeWhile_append_of_pos hp]
  exact List.prefix_append _ _

/-- a non-empty pattern free of the separator that occurs in `s` occurs inside one field -/
theorem infix_in_field {sep : Char} {p s : Str} (hne : p ≠ []) (hs : sep ∉ p) (h : p <:+: s) :
    ∃ f ∈ splitOn sep s, p <:+: f := by
  induction s with
  | nil => exact absurd (List.eq_nil_of_infix_nil h) hne
  | cons c cs ih =>
    obtain ⟨g, gs, hcs, hc⟩ := splitOn_cons sep c cs
    rcases List.infix_cons_iff.mp h with hpre | hin
    · obtain ⟨f, fs, hf⟩ := splitOn_eq_cons sep (c :: cs)
      exact ⟨f, hf ▸ List.mem_cons_self, (prefix_nosep_head hpre hs hf).isInfix⟩
    · obtain ⟨f, hf, hpf⟩ := ih hin
      rw [hc]
      split <;> rcases List.mem_cons.mp (hcs ▸ hf) with rfl | hf
      · exact ⟨f, List.mem_cons_of_mem _ List.mem_cons_self, hpf⟩
      · exact ⟨f, List.mem_cons_of_mem _ (List.mem_cons_of_mem _ hf), hpf⟩
      · exact ⟨c :: f, List.mem_cons_self, hpf.trans (List.suffix_cons c f).isInfix⟩
      · exact ⟨f, List.mem_cons_of_mem _ hf, hpf⟩

theorem infix_trimLeft {p f : Str} (hne : p ≠ []) (hsp : ∀ c ∈ p, isSpace c = false) (h : p <:+: f) :
    p <:+: trimLeft f := by
  induction f with
  | nil => exact absurd (List.eq_nil_of_infix_nil h) hne
  | cons c cs ih =>
    rw [trimLeft]
    split
    · rcases List.infix_cons_iff.mp h with hpre | hin
      · obtain ⟨a, q, rfl⟩ := List.exists_cons_of_ne_nil hne
        obtain ⟨rfl, -⟩ := List.cons_prefix_cons.mp hpre
        exact absurd ‹isSpace a = true› (by rw [hsp a List.mem_cons_self]; nofun)
      · exact ih hin
    · exact h

theorem infix_trim {p f : Str} (hne : p ≠ []) (hsp : ∀ c ∈ p, isSpace c = false) (h : p <:+: f) :
    p <:+: trim f := by
  have h := infix_trimLeft (p := p.reverse) (by simpa using hne) (fun c hc => hsp c (List.mem_reverse.mp hc))
    (List.reverse_infix.mpr (infix_trimLeft hne hsp h))
  simpa [trim, trimRight] using List.reverse_infix.mpr h

/-- comma separated, space-trimmed tokens -/
def tokens (s : Str) : List Str := (splitOn ',' s).map trim

/-- a pattern without comma or blank that occurs in a comma separated list occurs in one token -/
theorem contains_token {p s : Str} (hp : p ≠ [] ∧ ',' ∉ p ∧ ∀ c ∈ p, isSpace c = false)
    (h : contains p s = true) : ∃ t ∈ tokens s, contains p t = true := by
  obtain ⟨f, hf, hpf⟩ := infix_in_field hp.1 hp.2.1 (contains_iff.mp h)
  exact ⟨trim f, List.mem_map.mpr ⟨f, hf, rfl⟩, contains_iff.mpr (infix_trim hp.1 hp.2.2 hpf)⟩

end Str
end Pike
