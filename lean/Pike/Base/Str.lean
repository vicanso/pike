/-
Byte strings.  A Go `string`/`[]byte` is modelled as `List Char` in which every
`Char` stands for ONE BYTE (code points 0..255, "Latin-1 style").  ASCII literals
can therefore be written "like this".toList, and bytes >= 0x80 never collide with
ASCII.  All functions here are structurally recursive so that the kernel can
evaluate them (`decide`) on the literals extracted from the Go source.
-/
namespace Pike

abbrev Str := List Char

namespace Str

/-- ASCII lower-casing of one byte (what Go's `(?i)` does on ASCII input; the two
non-ASCII runes U+017F and U+212A that also fold to `s`/`k` are multi-byte in UTF-8
and are excluded from the generators, see DESIGN.md). -/
def foldC (c : Char) : Char :=
  if 'A' ≤ c ∧ c ≤ 'Z' then Char.ofNat (c.toNat + 32) else c

def fold (s : Str) : Str := s.map foldC

/-- `pat` is a prefix of `s`. -/
def hasPrefix : Str → Str → Bool
  | [], _ => true
  | _ :: _, [] => false
  | p :: ps, c :: cs => p == c && hasPrefix ps cs

/-- substring search: Go's `strings.Contains(s, pat)` / regexp literal match. -/
def contains (pat : Str) : Str → Bool
  | [] => pat.isEmpty
  | c :: cs => hasPrefix pat (c :: cs) || contains pat cs

theorem hasPrefix_iff {p s : Str} : hasPrefix p s = true ↔ p <+: s := by
  induction p generalizing s with
  | nil => simp [hasPrefix]
  | cons a p ih =>
    cases s with
    | nil => simp [hasPrefix]
    | cons c cs =>
      simp [hasPrefix, ih, List.cons_prefix_cons]

theorem contains_iff {p s : Str} : contains p s = true ↔ p <:+: s := by
  induction s with
  | nil => cases p <;> simp [contains]
  | cons c cs ih => simp only [contains, Bool.or_eq_true, hasPrefix_iff, ih, List.infix_cons_iff]

/-- split on a separator byte: Go's `strings.Split(s, sep)` for a one-byte sep. -/
def splitOn (sep : Char) : Str → List Str
  | [] => [[]]
  | c :: cs =>
    if c = sep then [] :: splitOn sep cs
    else match splitOn sep cs with
      | [] => [[c]]        -- unreachable: splitOn never returns []
      | f :: fs => (c :: f) :: fs

theorem splitOn_eq_cons (sep : Char) (s : Str) : ∃ f fs, splitOn sep s = f :: fs := by
  cases s with
  | nil => exact ⟨_, _, rfl⟩
  | cons c cs =>
    rw [splitOn]
    split
    · exact ⟨_, _, rfl⟩
    · split <;> exact ⟨_, _, rfl⟩

/-- the recursion of `splitOn` without its unreachable branch -/
theorem splitOn_cons (sep c : Char) (cs : Str) : ∃ f fs, splitOn sep cs = f :: fs ∧
    splitOn sep (c :: cs) = if c = sep then [] :: f :: fs else (c :: f) :: fs := by
  obtain ⟨f, fs, h⟩ := splitOn_eq_cons sep cs
  exact ⟨f, fs, h, by simp only [splitOn, h]⟩

/-- the first field is what precedes the first separator -/
theorem splitOn_head {sep : Char} {s f : Str} {fs : List Str} (h : splitOn sep s = f :: fs) :
    f = s.takeWhile (· != sep) := by
  induction s generalizing f fs with
  | nil => cases h; rfl
  | cons c cs ih =>
    obtain ⟨g, gs, hcs, hc⟩ := splitOn_cons sep c cs
    rw [hc] at h
    split at h <;> cases h
    · rw [List.takeWhile_cons_of_neg (by simpa)]
    · rw [List.takeWhile_cons_of_pos (by simpa), ← ih hcs]

theorem splitOn_head_prefix {sep : Char} {s f : Str} {fs : List Str}
    (h : splitOn sep s = f :: fs) : f <+: s :=
  splitOn_head h ▸ List.takeWhile_prefix _

/-- every field of a split is an infix of the original string -/
theorem field_infix {sep : Char} {s f : Str} (h : f ∈ splitOn sep s) : f <:+: s := by
  induction s generalizing f with
  | nil => cases List.mem_singleton.mp h; exact List.infix_refl _
  | cons c cs ih =>
    obtain ⟨g, gs, hcs, hc⟩ := splitOn_cons sep c cs
    have tl {x : Str} (hx : x ∈ g :: gs) : x <:+: c :: cs :=
      (ih (hcs ▸ hx)).trans (List.suffix_cons c cs).isInfix
    rw [hc] at h
    split at h <;> rcases List.mem_cons.mp h with rfl | h
    · exact List.nil_infix
    · exact tl h
    · exact (List.cons_prefix_cons.mpr ⟨rfl, splitOn_head_prefix hcs⟩).isInfix
    · exact tl (List.mem_cons_of_mem _ h)

/-- join with a one-byte separator: `strings.Join(xs, ",")` -/
def join (sep : Char) : List Str → Str
  | [] => []
  | [x] => x
  | x :: y :: ys => x ++ sep :: join sep (y :: ys)

def isSpace (c : Char) : Bool := c = ' ' || c = '\t'

def trimLeft : Str → Str
  | [] => []
  | c :: cs => if isSpace c then trimLeft cs else c :: cs

theorem trimLeft_suffix (s : Str) : trimLeft s <:+ s := by
  induction s with
  | nil => exact List.suffix_refl _
  | cons c cs ih =>
    simp only [trimLeft]; split
    · exact ih.trans (List.suffix_cons c cs)
    · exact List.suffix_refl _

def trimRight (s : Str) : Str := (trimLeft s.reverse).reverse

theorem trimRight_prefix (s : Str) : trimRight s <+: s := by
  unfold trimRight
  have := trimLeft_suffix s.reverse
  have h2 := List.reverse_prefix.mpr this
  simpa using h2

def trim (s : Str) : Str := trimRight (trimLeft s)

theorem trim_infix (s : Str) : trim s <:+: s :=
  (trimRight_prefix _).isInfix.trans (trimLeft_suffix s).isInfix

/-- the part of a directive token before `=` (its name) -/
def nameOf : Str → Str
  | [] => []
  | c :: cs => if c = '=' then [] else c :: nameOf cs

theorem nameOf_prefix (s : Str) : nameOf s <+: s := by
  induction s with
  | nil => exact List.prefix_refl _
  | cons c cs ih =>
    simp only [nameOf]; split
    · exact List.nil_prefix
    · exact List.cons_prefix_cons.mpr ⟨rfl, ih⟩

theorem fold_infix {a b : Str} (h : a <:+: b) : fold a <:+: fold b := by
  obtain ⟨s, t, rfl⟩ := h
  exact ⟨fold s, fold t, by simp [fold]⟩

def isDigit (c : Char) : Bool := '0' ≤ c ∧ c ≤ '9'

def digitVal (c : Char) : Nat := c.toNat - '0'.toNat

/-- maximal leading run of ASCII digits -/
def takeDigits : Str → Str
  | [] => []
  | c :: cs => if isDigit c then c :: takeDigits cs else []

def natOfDigits (s : Str) : Nat := s.foldl (fun acc c => acc * 10 + digitVal c) 0

def maxInt64 : Int := 9223372036854775807
def minInt64 : Int := -9223372036854775808

/-- two's complement wrap into int64 -/
def wrap64 (x : Int) : Int :=
  let m := x % 18446744073709551616
  if m ≥ 9223372036854775808 then m - 18446744073709551616 else m

/-- Go's `strconv.Atoi` with the error ignored: optional sign, decimal digits only;
syntax error → 0; out of range → clamped to the int64 bound. -/
def atoi (s : Str) : Int :=
  let (neg, body) := match s with
    | '-' :: r => (true, r)
    | '+' :: r => (false, r)
    | r => (false, r)
  if body.isEmpty || !(body.all isDigit) then 0
  else
    let n : Int := natOfDigits body
    if neg then (if n > 9223372036854775808 then minInt64 else -n)
    else (if n > maxInt64 then maxInt64 else n)

def ofString (s : String) : Str := s.toList

end Str
end Pike
