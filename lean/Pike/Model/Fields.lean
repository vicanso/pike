import Pike.Base.Str
/-
config/validate.go + the struct tags of config/config.go: what "well-formed" means for the fields whose rule is
pike's own (the go-playground validator is the interpreter of the tags; durations, sizes and regular expressions are
judged by library parsers and stay outside).  A `Str` is a byte string.
-/
namespace Pike
namespace Fields

/-- `utf8.RuneCountInString` on valid UTF-8: the bytes that do not continue a sequence -/
def runeCount (s : Str) : Nat := (s.filter fun c => !(0x80 ≤ c.toNat && c.toNat ≤ 0xBF)).length

/-- `required,xName` (`xName` = `max=20`, counted in runes) -/
def nameOK (s : Str) : Bool := !s.isEmpty && decide (runeCount s ≤ 20)

def policies : List Str := ["first", "random", "roundRobin", "leastconn"].map String.toList

/-- `omitempty,xPolicy`: empty, or exactly one of the four names the upstream library switches on -/
def policyOK (s : Str) : Bool := s.isEmpty || policies.contains s

def isAlpha (c : Char) : Bool := ('a' ≤ c && c ≤ 'z') || ('A' ≤ c && c ≤ 'Z')
def isSchemeChar (c : Char) : Bool := isAlpha c || ('0' ≤ c && c ≤ '9') || c == '+' || c == '-' || c == '.'

def lowerC (c : Char) : Char := if 'A' ≤ c ∧ c ≤ 'Z' then Char.ofNat (c.toNat + 32) else c

/-- `net/url` getScheme: a letter, then letters / digits / `+-.`, then `:`; the scheme is reported in lower case.
`none` = no scheme (or a malformed one: `url.Parse` then fails or reports an empty scheme — rejected either way) -/
def schemeAux : Str → Str → Option Str
  | [], _ => none
  | c :: r, acc => if c = ':' then (if acc.isEmpty then none else some acc.reverse)
                   else if isSchemeChar c then schemeAux r (lowerC c :: acc) else none

def scheme (s : Str) : Option Str :=
  match s with
  | c :: _ => if isAlpha c then schemeAux s [] else none
  | [] => none

/-- `required,xAddr`: the address parses and its scheme is http or https -/
def addrOK (s : Str) : Bool := scheme s = some "http".toList || scheme s = some "https".toList

/-- `xURLPath`: starts with a slash -/
def urlPathOK (s : Str) : Bool := match s with | c :: _ => c == '/' | [] => false

/-- `xDivide`: exactly two parts around a colon -/
def divideOK (s : Str) : Bool := (Str.splitOn ':' s).length == 2

def fieldOK (kind : String) (v : Str) : Option Bool :=
  match kind with
  | "name" => some (nameOK v)
  | "policy" => some (policyOK v)
  | "addr" => some (addrOK v)
  | "prefix" => some (urlPathOK v)
  | "divide" => some (divideOK v)
  | _ => none

theorem policyOK_iff {s : Str} : policyOK s = true ↔ s = [] ∨ s ∈ policies := by
  simp only [policyOK, Bool.or_eq_true, List.isEmpty_iff, List.contains_iff_mem]

theorem addrOK_iff {s : Str} :
    addrOK s = true ↔ scheme s = some "http".toList ∨ scheme s = some "https".toList := by
  simp only [addrOK, Bool.or_eq_true, decide_eq_true_eq]

theorem nameOK_iff {s : Str} : nameOK s = true ↔ s ≠ [] ∧ runeCount s ≤ 20 := by
  simp [nameOK]

end Fields
end Pike
