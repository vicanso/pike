import Pike.Base.Str
import Pike.Facts
/-
cache/dispatcher.go + github.com/golang/groupcache/lru: the sharded LRU of cache entries.
A shard is the recency list (front = most recently used).  `stamp` and `born` are ghost
(the driver never prints them): the logical time of the last access, and the log of
"entry e was created for key k".
-/
namespace Pike
namespace LRU

structure Item where
  key : Str
  eid : Nat
  stamp : Nat      -- ghost
deriving Repr, DecidableEq

abbrev Shard := List Item

def find (s : Shard) (k : Str) : Option Item := s.find? (fun it => it.key = k)

def erase (s : Shard) (k : Str) : Shard := s.filter (fun it => it.key ≠ k)

/-- `lru.Cache.Get` on a resident key: move to front -/
def touch (s : Shard) (it : Item) (now : Nat) : Shard :=
  { it with stamp := now } :: erase s it.key

/-- `lru.Cache.Add` of a key that is not resident: push front, then evict the oldest
when `MaxEntries ≠ 0` and the length exceeds it (0 means unlimited) -/
def insert (cap : Nat) (s : Shard) (it : Item) : Shard :=
  let s' := it :: s
  if cap ≠ 0 ∧ s'.length > cap then s'.dropLast else s'

/-- the entry evicted by `insert`, if any -/
def victim (cap : Nat) (s : Shard) (it : Item) : Option Item :=
  let s' := it :: s
  if cap ≠ 0 ∧ s'.length > cap then s'.getLast? else none

structure Disp where
  zones : Nat
  cap : Nat
  shards : Nat → Shard
  next : Nat                 -- allocation counter: entry ids are 0,1,2,… in creation order
  clock : Nat                -- ghost
  born : List (Nat × Str)    -- ghost

def updF (f : Nat → Shard) (i : Nat) (v : Shard) : Nat → Shard := fun j => if j = i then v else f j

@[simp] theorem updF_same (f : Nat → Shard) (i : Nat) (v : Shard) : updF f i v i = v := by simp [updF]
theorem updF_other (f : Nat → Shard) (i j : Nat) (v : Shard) (h : j ≠ i) : updF f i v j = f j := by simp [updF, h]

/-- what holds of all shards, and of the new shard `i`, holds of all shards after the update -/
theorem forall_updF {P : Nat → Shard → Prop} {f : Nat → Shard} {i : Nat} {v : Shard} (hi : P i v) (ho : ∀ j, P j (f j)) :
    ∀ j, P j (updF f i v j) := by
  intro j
  unfold updF
  split
  · subst j; exact hi
  · exact ho j

def init (zones cap : Nat) : Disp := ⟨zones, cap, fun _ => [], 0, 0, []⟩

/-- `dispatcher.GetHTTPCache` under the shard mutex: get-or-create.  Returns the entry id
and whether it was created now. -/
def lookup (d : Disp) (i : Nat) (k : Str) : Disp × Nat × Bool :=
  match find (d.shards i) k with
  | some it =>
    ({ d with shards := updF d.shards i (touch (d.shards i) it d.clock), clock := d.clock + 1 }, it.eid, false)
  | none =>
    let it : Item := ⟨k, d.next, d.clock⟩
    ({ d with shards := updF d.shards i (insert d.cap (d.shards i) it),
              next := d.next + 1, clock := d.clock + 1, born := (d.next, k) :: d.born }, d.next, true)

/-- `dispatcher.RemoveHTTPCache` (the store delete is modelled in Sys) -/
def remove (d : Disp) (i : Nat) (k : Str) : Disp :=
  { d with shards := updF d.shards i (erase (d.shards i) k) }

def resident (d : Disp) : Nat := ((List.range d.zones).map (fun i => (d.shards i).length)).sum

inductive Op where
  | get (k : Str)
  | purge (k : Str)
deriving Repr, DecidableEq

def step (hash : Str → Nat) (d : Disp) : Op → Disp
  | .get k => (lookup d (hash k % d.zones) k).1
  | .purge k => remove d (hash k % d.zones) k

def run (hash : Str → Nat) (d : Disp) (ops : List Op) : Disp := ops.foldl (step hash) d

end LRU
end Pike

namespace Pike
namespace LRU

/-- the dispatcher `NewDispatcher` builds for configured size `S` (size computation translated
from the Go source into `Facts.dispatcherSizes`) -/
def ofSize (S : Int) : Disp :=
  init (Facts.dispatcherSizes S).1.toNat (Facts.dispatcherSizes S).2.toNat

/-- one named cache: dispatcher plus (when a store is configured) the set of keys that have a
persisted record -/
structure Cache where
  name : Str
  disp : Disp
  store : Option (List Str)

/-- the dispatcher registry (`dispatchers`) -/
abbrev Reg := List Cache

def Reg.find (r : Reg) (name : Str) : Option Cache := List.find? (fun c => c.name = name) r

/-- `dispatchers.Get(name).GetHTTPCache(key)`; `hv` is the key's hash value -/
def Reg.lookup (r : Reg) (name key : Str) (hv : Nat) : Reg × Option (Nat × Bool) :=
  match r.find name with
  | none => (r, none)
  | some c =>
    let res := LRU.lookup c.disp (hv % c.disp.zones) key
    (r.map (fun c' => if c'.name = name then { c' with disp := res.1 } else c'), some res.2)

def Cache.purge (c : Cache) (key : Str) (hv : Nat) : Cache :=
  { c with disp := remove c.disp (hv % c.disp.zones) key, store := c.store.map (fun s => s.filter (· ≠ key)) }

/-- `dispatchers.RemoveHTTPCache(name, key)`: a named cache, or every cache when the name is empty -/
def Reg.purge (r : Reg) (name key : Str) (hv : Nat) : Reg :=
  r.map (fun c => if name = [] ∨ c.name = name then c.purge key hv else c)

/-- a record for `key` is written to the cache's store -/
def Reg.put (r : Reg) (name key : Str) : Reg :=
  r.map (fun c => if c.name = name then { c with store := c.store.map (fun s => key :: s.filter (· ≠ key)) } else c)

end LRU
end Pike
