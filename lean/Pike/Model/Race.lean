/-
Abstract executions with mutexes (read/write mode): the classical lockset argument.
A trace is a list of events; positions are indices.  Mutual exclusion of the mutex is the
assumption `WF` (what sync.Mutex / sync.RWMutex provide); the theorem says that two conflicting
accesses that both hold the same lock (at least one in write mode) are ordered by
happens-before = program order ∪ (release → later acquire of the same lock), transitively.
-/
namespace Pike
namespace Race

inductive Op
  | acq (l : Nat) (w : Bool)      -- Lock (w = true) / RLock (w = false)
  | rel (l : Nat)                 -- Unlock / RUnlock
  | read (x : Nat)
  | write (x : Nat)
deriving DecidableEq, Repr

structure Ev where
  tid : Nat
  op : Op
deriving DecidableEq, Repr

abbrev Trace := List Ev

def isAcq (tr : Trace) (i : Nat) (l : Nat) (w : Bool) (t : Nat) : Prop := tr[i]? = some ⟨t, .acq l w⟩
def isRel (tr : Trace) (i : Nat) (l : Nat) (t : Nat) : Prop := tr[i]? = some ⟨t, .rel l⟩
def lockEvent (tr : Trace) (i : Nat) (l : Nat) : Prop := ∃ t, (∃ w, isAcq tr i l w t) ∨ isRel tr i l t

/-- thread `t` holds lock `l` in mode `w` at position `i`: it acquired it at some `a < i` and has
not released it in between -/
def Holds (tr : Trace) (i : Nat) (t : Nat) (l : Nat) (w : Bool) : Prop :=
  ∃ a, a < i ∧ isAcq tr a l w t ∧ ∀ r, a < r → r < i → ¬ isRel tr r l t

/-- mutual exclusion: between two acquisitions of `l` by different threads of which at least one
is in write mode, the first holder releases -/
def WF (tr : Trace) : Prop :=
  ∀ l a b wa wb ta tb, a < b → ta ≠ tb → (wa = true ∨ wb = true) →
    isAcq tr a l wa ta → isAcq tr b l wb tb → ∃ r, a < r ∧ r < b ∧ isRel tr r l ta

/-- happens-before -/
inductive HB (tr : Trace) : Nat → Nat → Prop
  | po {i j t} : i < j → (∃ o, tr[i]? = some ⟨t, o⟩) → (∃ o, tr[j]? = some ⟨t, o⟩) → HB tr i j
  | sync {i j l t u w} : i < j → isRel tr i l t → isAcq tr j l w u → HB tr i j
  | trans {i j k} : HB tr i j → HB tr j k → HB tr i k

def isAccess (tr : Trace) (i t x : Nat) (w : Bool) : Prop :=
  tr[i]? = some ⟨t, if w then .write x else .read x⟩

theorem access_not_rel {tr : Trace} {i t x l u : Nat} {w : Bool} (ha : isAccess tr i t x w) : ¬ isRel tr i l u := by
  unfold isAccess at ha; unfold isRel
  rw [ha]
  cases w <;> simp

/-- LOCKSET THEOREM.  Two accesses by different threads, at positions i < j, both performed while
holding the same lock `l`, at least one of the holders in write mode, are ordered by
happens-before (so they do not race). -/
theorem lockset_ordered (tr : Trace) (hwf : WF tr) (i j t u l x : Nat) (wi wj ai aj : Bool)
    (hij : i < j) (htu : t ≠ u) (hmode : wi = true ∨ wj = true)
    (hi : isAccess tr i t x ai) (hj : isAccess tr j u x aj)
    (hhi : Holds tr i t l wi) (hhj : Holds tr j u l wj) : HB tr i j := by
  obtain ⟨a, hai, haq, hno⟩ := hhi
  obtain ⟨b, hbj, hbq, hnoj⟩ := hhj
  rcases Nat.lt_trichotomy a b with hlt | rfl | hgt
  · -- t acquired first: it releases before u acquires, and that release comes after i
    obtain ⟨r, har, hrb, hrel⟩ := hwf l a b wi wj t u hlt htu hmode haq hbq
    have hir : i < r := by
      rcases Nat.lt_trichotomy r i with h | rfl | h
      · exact absurd hrel (hno r har h)
      · exact absurd hrel (access_not_rel hi)
      · exact h
    -- i (program order) r (release → acquire) b (program order) j
    exact .trans (.po hir ⟨_, hi⟩ ⟨_, hrel⟩) (.trans (.sync hrb hrel hbq) (.po hbj ⟨_, hbq⟩ ⟨_, hj⟩))
  · -- one acquisition cannot belong to both threads
    rw [isAcq, haq] at hbq
    cases hbq
    exact absurd rfl htu
  · -- u acquired first and holds until j; t's later acquisition would need u's release in between
    obtain ⟨r, hbr, hra, hrel⟩ := hwf l b a wj wi u t hgt (Ne.symm htu) (Or.symm hmode) hbq haq
    exact absurd hrel (hnoj r hbr (by omega))

end Race
end Pike
