import Pike.Base.Str
/-
The persistent store as the cache layer uses it: one partial map per configured store, keyed by the exact key
bytes.  (`Sys.store : Key → Option Rec` is this map for one store; here keys are identified by an index into the
harness's key pool and the store by its index.)
-/
namespace Pike
namespace StoreMap

abbrev K := Nat × Nat          -- (store, key)
abbrev M := List (K × Str)

def get : M → K → Option Str
  | [], _ => none
  | (k', v) :: m, k => if k' = k then some v else get m k
def del : M → K → M
  | [], _ => []
  | (k', v) :: m, k => if k' = k then del m k else (k', v) :: del m k
def set (m : M) (k : K) (v : Str) : M := (k, v) :: del m k

theorem get_del (m : M) (k k' : K) : get (del m k) k' = if k' = k then none else get m k' := by
  induction m with
  | nil => exact (ite_self _).symm
  | cons e m ih =>
    obtain ⟨k0, v⟩ := e
    rw [del, get]
    by_cases hk : k' = k
    · subst hk; rw [if_pos rfl] at ih ⊢; split
      · exact ih
      · next h0 => rw [get, if_neg h0, ih]
    · rw [if_neg hk] at ih ⊢; split
      · next h0 => rw [ih, if_neg (h0 ▸ Ne.symm hk)]
      · rw [get, ih]

theorem get_del_same (m : M) (k : K) : get (del m k) k = none := by rw [get_del, if_pos rfl]

theorem get_del_other (m : M) (k k' : K) (h : k' ≠ k) : get (del m k) k' = get m k' := by rw [get_del, if_neg h]

theorem get_set (m : M) (k k' : K) (v : Str) : get (set m k v) k' = if k' = k then some v else get m k' := by
  rw [set, get, get_del]
  simp only [eq_comm (a := k)]
  split <;> rfl

end StoreMap
end Pike
