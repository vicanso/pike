import Pike.Base.Str
/-
github.com/vicanso/fresh `Check` (what elton's default `fresh` middleware asks for GET/HEAD answers with a 2xx status):
is the answer "not modified" for this client?  Dates enter as the unix seconds `time.Parse(time.RFC1123, …)` yields
(0 = unparsable).
-/
namespace Pike
namespace Conditional

def isSp (c : Char) : Bool := c == ' '

/-- `parseTokenList`: split at commas; blanks BEFORE a token are skipped, blanks after it end it -/
def trimLeft : Str → Str
  | [] => []
  | c :: r => if isSp c then trimLeft r else c :: r

def trimRight (s : Str) : Str := (trimLeft s.reverse).reverse

def tokens (s : Str) : List Str := (Str.splitOn ',' s).map fun t => trimRight (trimLeft t)

def isWs (c : Char) : Bool := c == ' ' || c == '\t' || c == '\n' || c == '\r' || c == '\x0b' || c == '\x0c'

def trimWs (s : Str) : Str := ((s.dropWhile isWs).reverse.dropWhile isWs).reverse

/-- `(?:^|,)\s*?no-cache\s*?(?:,|$)` -/
def hasNoCache (cc : Str) : Bool := (Str.splitOn ',' cc).any fun t => trimWs t = "no-cache".toList

def weak : Str := "W/".toList

def etagMatches (tok etag : Str) : Bool :=
  tok = etag || (weak.isPrefixOf tok && tok.drop 2 = etag) || (weak.isPrefixOf etag && etag.drop 2 = tok)

/-- the If-None-Match clause alone: absent or `*` passes; otherwise the answer needs an ETag that one token matches -/
def inmOK (inm etag : Str) : Bool :=
  inm.isEmpty || inm = ['*'] || (!etag.isEmpty && (tokens inm).any fun t => etagMatches t etag)

/-- the If-Modified-Since clause alone: absent passes; otherwise both dates parse and the resource is not newer -/
def imsOK (imsPresent : Bool) (ims lm : Nat) : Bool :=
  !imsPresent || (lm ≠ 0 && ims ≠ 0 && decide (lm ≤ ims))

def check (imsPresent : Bool) (ims : Nat) (inm cc : Str) (lm : Nat) (etag : Str) : Bool :=
  if !imsPresent && inm.isEmpty then false
  else if !cc.isEmpty && hasNoCache cc then false
  else inmOK inm etag && imsOK imsPresent ims lm

/-- the decision in full: a validator was sent, the request does not carry `no-cache`, and both clauses pass
(`hasNoCache [] = false`, so the emptiness test in front of it adds nothing) -/
theorem check_iff {imsPresent : Bool} {ims lm : Nat} {inm cc etag : Str} :
    check imsPresent ims inm cc lm etag = true ↔
      (imsPresent = true ∨ inm ≠ []) ∧ hasNoCache cc = false
      ∧ inmOK inm etag = true ∧ imsOK imsPresent ims lm = true := by
  have hv : (!imsPresent && inm.isEmpty) = false ↔ imsPresent = true ∨ inm ≠ [] := by
    cases imsPresent <;> simp
  have hcc : (!cc.isEmpty && hasNoCache cc) = hasNoCache cc := by cases cc <;> rfl
  rw [← hv, check, hcc]
  cases (!imsPresent && inm.isEmpty) <;> cases hasNoCache cc <;> simp

/-- a 304 is given only to a client that sent a validator, and only if EVERY validator it sent matches -/
theorem check_sound {imsPresent : Bool} {ims lm : Nat} {inm cc etag : Str}
    (h : check imsPresent ims inm cc lm etag = true) :
    (imsPresent = true ∨ inm ≠ []) ∧ inmOK inm etag = true ∧ imsOK imsPresent ims lm = true :=
  have ⟨hv, _, h12⟩ := check_iff.mp h
  ⟨hv, h12⟩

/-- … and a client whose validators all match (and that did not ask for revalidation with `no-cache`) gets it -/
theorem check_complete {imsPresent : Bool} {ims lm : Nat} {inm cc etag : Str}
    (hv : imsPresent = true ∨ inm ≠ []) (hcc : hasNoCache cc = false)
    (h1 : inmOK inm etag = true) (h2 : imsOK imsPresent ims lm = true) :
    check imsPresent ims inm cc lm etag = true :=
  check_iff.mpr ⟨hv, hcc, h1, h2⟩

end Conditional
end Pike
