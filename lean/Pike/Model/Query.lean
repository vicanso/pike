import Pike.Base.Str
/-
net/url as far as a location's added query parameters need it: `url.QueryEscape` (what `url.Values.Encode` applies to
every key and value) and `Values.Encode` itself (keys in byte order, the values of a key in insertion order).  A `Str`
is a byte string, one `Char` per byte.
-/
namespace Pike
namespace Query

def unreserved (c : Char) : Bool :=
  ('a' ≤ c && c ≤ 'z') || ('A' ≤ c && c ≤ 'Z') || ('0' ≤ c && c ≤ '9') || c == '-' || c == '_' || c == '.' || c == '~'

def hexU (n : Nat) : Char := if n < 16 then "0123456789ABCDEF".toList.getD n '0' else '0'

def unhex (c : Char) : Option Nat :=
  if '0' ≤ c ∧ c ≤ '9' then some (c.toNat - '0'.toNat)
  else if 'A' ≤ c ∧ c ≤ 'F' then some (c.toNat - 'A'.toNat + 10)
  else if 'a' ≤ c ∧ c ≤ 'f' then some (c.toNat - 'a'.toNat + 10)
  else none

/-- `url.QueryEscape`, byte by byte -/
def escape : Str → Str
  | [] => []
  | c :: r =>
    if unreserved c then c :: escape r
    else if c = ' ' then '+' :: escape r
    else '%' :: hexU (c.toNat / 16) :: hexU (c.toNat % 16) :: escape r

/-- `url.QueryUnescape` -/
def unescape : Str → Option Str
  | [] => some []
  | c :: r =>
    if c = '+' then (unescape r).map (' ' :: ·)
    else if c = '%' then
      match r with
      | a :: b :: r' =>
        match unhex a, unhex b with
        | some x, some y => (unescape r').map (Char.ofNat (16 * x + y) :: ·)
        | _, _ => none
      | _ => none
    else (unescape r).map (c :: ·)

theorem unhex_hexU : ∀ m, m < 16 → unhex (hexU m) = some m := by decide +kernel

theorem unreserved_hexU (n : Nat) : unreserved (hexU n) = true :=
  if h : n < 16 then (by decide +kernel : ∀ m, m < 16 → unreserved (hexU m) = true) n h
  else by simp only [hexU, h, if_false]; decide

theorem unreserved_not_special {c : Char} (h : unreserved c = true) : c ≠ '+' ∧ c ≠ '%' := by
  constructor <;> (rintro rfl; revert h; decide)

/-- `escape` emits only unreserved bytes, `+` and `%` -/
theorem escape_chars (s : Str) : ∀ x ∈ escape s, unreserved x = true ∨ x = '+' ∨ x = '%' := by
  induction s with
  | nil => simp [escape]
  | cons c r ih =>
    unfold escape
    split
    · exact List.forall_mem_cons.mpr ⟨.inl ‹_›, ih⟩
    · split
      · exact List.forall_mem_cons.mpr ⟨.inr (.inl rfl), ih⟩
      · simpa [unreserved_hexU] using ih

theorem unescape_plus (t : Str) : unescape ('+' :: t) = (unescape t).map (' ' :: ·) := by
  conv => lhs; unfold unescape
  rw [if_pos rfl]

theorem unescape_percent (a b : Char) (t : Str) (x y : Nat) (ha : unhex a = some x) (hb : unhex b = some y) :
    unescape ('%' :: a :: b :: t) = (unescape t).map (Char.ofNat (16 * x + y) :: ·) := by
  conv => lhs; unfold unescape
  simp [ha, hb]

theorem unescape_plain {c : Char} (h1 : c ≠ '+') (h2 : c ≠ '%') (t : Str) :
    unescape (c :: t) = (unescape t).map (c :: ·) := by
  conv => lhs; unfold unescape
  rw [if_neg h1, if_neg h2]

/-- what is escaped comes back exactly: no byte string is confused with another by the encoding -/
theorem unescape_escape (s : Str) (hb : ∀ c ∈ s, c.toNat < 256) : unescape (escape s) = some s := by
  induction s with
  | nil => rfl
  | cons c r ih =>
    have ihr := ih fun x hx => hb x (List.mem_cons_of_mem _ hx)
    have hc : c.toNat / 16 < 16 := by have := hb c List.mem_cons_self; omega
    unfold escape
    split
    · obtain ⟨h1, h2⟩ := unreserved_not_special ‹_›
      rw [unescape_plain h1 h2, ihr]; rfl
    · split
      · rw [unescape_plus, ihr]; subst c; rfl
      · rw [unescape_percent _ _ _ _ _ (unhex_hexU _ hc) (unhex_hexU _ (Nat.mod_lt _ (by decide))), ihr,
          Nat.div_add_mod, Char.ofNat_toNat]; rfl

/-- insertion-ordered multimap: `url.Values` built by `Add` -/
abbrev Values := List (Str × List Str)

def add (v : Values) (k x : Str) : Values :=
  if v.any (·.1 = k) then v.map (fun e => if e.1 = k then (e.1, e.2 ++ [x]) else e) else v ++ [(k, [x])]

def ofPairs (ps : List (Str × Str)) : Values := ps.foldl (fun v p => add v p.1 p.2) []

def strLe (a b : Str) : Bool := decide (a ≤ b)

/-- `Values.Encode`: keys sorted, `key=value` joined by `&` -/
def encode (v : Values) : Str :=
  let sorted := v.mergeSort (fun a b => strLe a.1 b.1)
  let parts := sorted.flatMap fun e => e.2.map fun x => escape e.1 ++ '=' :: escape x
  Str.join '&' parts

end Query
end Pike
