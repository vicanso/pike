import Pike.Model.Proxy
import Pike.Model.Query
import Pike.Model.Conditional
import Pike.Lemmas.Header
import Pike.Lemmas.Rewrite
import Pike.Spec.Skeleton
import Pike.Facts
/-
C15 — requests and responses cross the proxy with only the configured changes (PARTIAL: the
transport — net/http, httputil.ReverseProxy — and rewrite rules that are general regular
expressions are outside; the documented wildcard forms are modelled).
-/
namespace Pike
namespace C15
open Proxy Str

/-- Obligation on the regenerated statement skeletons of `mergeHeader` and `AddQuery`: configured headers are ADDED value by value (`dst.Add`), configured query parameters appended to the raw query. -/
theorem skeleton_transcribed :
    Facts.skel_Location_mergeHeader = Spec.Skeleton.Location_mergeHeader
    ∧ Facts.skel_Location_AddQuery = Spec.Skeleton.Location_AddQuery := by
  refine ⟨?_, ?_⟩ <;> rfl

/-- Obligation on the regenerated statement skeleton of `server.Start`: the middleware chain a listening server
runs every request through — error handler, the default `fresh` middleware (it is what turns a full answer into the
client's 304, for `If-None-Match` and for `If-Modified-Since` alike), responder, cache, proxy — is, item for item and in
this order, the chain the harness pipelines are built from.  The suites that do not start a real listener observe
pike through that replica; this obligation is what makes the replica a faithful one.  (Suite `fault` goes through
`server.Start` itself.) -/
theorem pipeline_is_server_start : Facts.skel_server_Start = Spec.Skeleton.server_Start := by rfl

/-- Obligation on the extracted facts: for a `fetching` request the proxy withholds the validators
AND the range headers. -/
theorem facts_ok :
    (["If-Modified-Since", "If-None-Match", "Range", "If-Range"].all fun k => Facts.strippedOnFetch.contains k) = true := by decide +kernel

theorem addAll_values_other (h : Header) (kvs : List (Str × Str)) (k : Str) (hk : ∀ kv ∈ kvs, kv.1 ≠ k) :
    (addAll h kvs).values k = h.values k := by
  unfold addAll
  induction kvs generalizing h with
  | nil => rfl
  | cons kv kvs ih =>
    rw [List.foldl_cons, ih _ fun x hx => hk x (List.mem_cons_of_mem _ hx)]
    exact Header.values_add_other h kv.1 k kv.2 (hk kv List.mem_cons_self).symm

theorem withhold_values_other (f : Bool) (h : Header) (k : Str) (hs : f = true → ¬ stripped.contains k = true) :
    (withhold f h).values k = h.values k := by
  unfold withhold
  split
  · apply Header.values_filter_other
    rintro e - rfl
    simp only [Bool.eq_false_iff.mpr (hs ‹_›), Bool.false_and, Bool.not_false]
  · rfl

/-- method and body are never touched by the proxy middleware -/
theorem method_body_untouched (f : Bool) (l : LocCfg) (ae : Str) (r : Req) :
    (upstreamRequest f l ae r).method = r.method ∧ (upstreamRequest f l ae r).body = r.body := ⟨rfl, rfl⟩

/-- FULL STATEMENT (headers).  Every client header that is not one of the withheld ones (for a
fetching request), not Accept-Encoding when the upstream configures one, and not a key the
location adds, reaches the upstream with exactly the client's values. -/
theorem other_headers_preserved (f : Bool) (l : LocCfg) (ae : Str) (r : Req) (k : Str)
    (hs : f = true → ¬ stripped.contains k = true) (hadd : ∀ kv ∈ l.reqHeaders, kv.1 ≠ k)
    (hae : ae.isEmpty = true ∨ k ≠ hAcceptEncoding) :
    (upstreamRequest f l ae r).header.values k = r.header.values k := by
  have h1 := (addAll_values_other _ _ k hadd).trans (withhold_values_other f r.header k hs)
  unfold upstreamRequest
  simp only
  split
  · exact h1
  · rw [Header.values_set_other _ _ _ _ (hae.resolve_left ‹_›), h1]

/-- FULL STATEMENT (conditionals and ranges withheld).  For a fetching request every header entry
the upstream is sent under a withheld name has an empty first value — unless the location itself
adds that header: the full response is fetched whatever validators or ranges the client sent. -/
theorem conditionals_withheld (h : Header) :
    ∀ e ∈ withhold true h, stripped.contains e.1 = true → (e.2.headD []).isEmpty = true := by
  intro e he hs
  simpa only [hs, Bool.true_and, Bool.not_not] using (List.mem_filter.mp he).2

/-- the added request headers are sent -/
theorem added_request_header_sent (h : Header) (k v : Str) : v ∈ (h.add k v).values k := by
  unfold Header.add
  split
  · rename_i hany
    induction h with
    | nil => simp at hany
    | cons e h ih =>
      by_cases he : e.1 = k
      · simp [Header.values, he]
      · simp only [List.any_cons, he, decide_false, Bool.false_or] at hany
        simpa [Header.values, he] using ih hany
  · simp [Header.values_append, Header.values]

/-- FULL STATEMENT (query).  The client's raw query reaches the upstream byte for byte; the
location's parameters, if any, are appended after it. -/
theorem query_kept (l : LocCfg) (raw : Str) :
    raw <+: addQuery l raw ∧ (l.query.isEmpty = true → addQuery l raw = raw)
    ∧ (l.query.isEmpty = false → l.query <:+ addQuery l raw) := by
  unfold addQuery
  refine ⟨?_, fun h => if_pos h, fun h => ?_⟩
  · split
    · exact List.prefix_refl _
    · split
      · rename_i hr; rw [List.isEmpty_iff.mp hr]; exact List.nil_prefix
      · exact List.prefix_append _ _
  · rw [if_neg (by simp [h])]
    split
    · exact List.suffix_refl _
    · exact (List.suffix_cons _ _).trans (List.suffix_append _ _)

theorem splitAt_prefix (p rest : Str) : splitAt p (p ++ rest) = some ([], rest) := by
  cases hp : p ++ rest with
  | nil => obtain ⟨rfl, rfl⟩ := List.append_eq_nil_iff.mp hp; rfl
  | cons c cs => rw [splitAt, ← hp, if_pos (hasPrefix_append p rest), List.drop_left]

/-- FULL STATEMENT (rewrite, documented form `PREFIX*:VALUE`).  A path that starts with the prefix
is replaced by the value with `$1` standing for the rest of the path (up to the first blank). -/
theorem rewrite_star (p value rest : Str) (hr : takeNonSpace rest = rest) :
    rewrite1 (p ++ rest) (p ++ ['*'], value) = subst1 value rest := by
  simp [rewrite1, splitAt_prefix, hr]

/-- FULL STATEMENT (rewrite, any wildcard placement, e.g. the documented `/rest/*/user/*:/$1/$2`).
When a rule with k stars fires, the upstream path is the rule's value with `$1…$k` replaced by
k pieces of the CLIENT'S OWN path: from the match position on, the client's path reads literal₀,
piece₁, literal₁, …, pieceₖ, literalₖ, and no piece contains a blank.  When it does not fire the
path is forwarded as the client sent it. -/
theorem rewrite_wildcards (path : Str) (rule : Str × Str)
    (hl : 2 ≤ (splitStars rule.1).length ∧ (splitStars rule.1).length ≤ 10) :
    rewriteG path rule = path
      ∨ ∃ (i : Nat) (caps : List Str), rewriteG path rule = substN caps rule.2
          ∧ caps.length + 1 = (splitStars rule.1).length
          ∧ interleave (splitStars rule.1) caps <+: path.drop i
          ∧ ∀ c ∈ caps, takeNonSpace c = c := by
  unfold rewriteG
  simp only
  split
  · omega
  · cases hm : matchAny (splitStars rule.1) path with
    | none => exact Or.inl rfl
    | some caps =>
      obtain ⟨i, -, hi⟩ := List.exists_of_findSome?_eq_some hm
      obtain ⟨l, ls, e⟩ := List.exists_cons_of_ne_nil (splitStars_ne_nil rule.1)
      rw [e] at hi ⊢
      obtain ⟨h1, h2, h3⟩ := matchHere_sound ls l _ caps hi
      exact .inr ⟨i, caps, rfl, by simp [h1], h2, h3⟩

/-- FULL STATEMENT for the documented two-wildcard form `A*B*:VALUE` in the unambiguous case.
If the client's path is `A x B y` without blanks and `B` does not occur again further right, the
upstream path is VALUE with `$1 := x` and `$2 := y`. -/
theorem rewrite_two_stars (a b x y value : Str)
    (hsp : takeNonSpace (x ++ b ++ y) = x ++ b ++ y)
    (huniq : ∀ n, x.length < n → n ≤ (x ++ b ++ y).length → hasPrefix b ((x ++ b ++ y).drop n) = false)
    (ha : '*' ∉ a) (hb : '*' ∉ b) :
    rewriteG (a ++ x ++ b ++ y) (a ++ '*' :: b ++ ['*'], value) = substN [x, y] value := by
  have hstars : splitStars (a ++ '*' :: b ++ ['*']) = [a, b, []] := by
    rw [List.append_assoc, List.cons_append, splitStars_append_star a _ ha, splitStars_append_star b _ hb]; rfl
  have hy : takeNonSpace y = y := takeNonSpace_append_left hsp
  -- at the start of the path the first star takes `x`: behind no longer piece does `b` occur again
  have hm : matchHere [a, b, []] (a ++ x ++ b ++ y) = some [x, y] := by
    rw [List.append_assoc] at hsp huniq
    rw [List.append_assoc, List.append_assoc]
    apply matchHere_star
    · simp [hsp]
    · intro n h1 h2
      rw [hsp] at h2
      rw [matchHere_last_star, huniq n h1 h2]; rfl
    · rw [matchHere_last_star, hasPrefix_append, List.drop_left, hy]; rfl
  simp only [rewriteG, hstars, matchAny_of_matchHere hm]
  rfl

/- the documented examples, evaluated (tests of the model, not theorems about all inputs) -/
example : rewriteRule "/rest/v1/user/42".toList ("/rest/*/user/*".toList, "/$1/$2".toList) = "/v1/42".toList := by decide +kernel
example : rewriteRule "/api/users/1".toList ("/api/*".toList, "/$1".toList) = "/users/1".toList := by decide +kernel
example : rewriteRule "/plain/x".toList ("/rest/*/user/*".toList, "/$1/$2".toList) = "/plain/x".toList := by decide +kernel
example : rewriteRule "/rest/a/user/b/user/c".toList ("/rest/*/user/*".toList, "/$1+$2".toList) = "/a/user/b+c".toList := by decide +kernel

/-- a rule whose pattern does not occur leaves the path alone -/
theorem rewrite_no_match (path pat value : Str) (h : contains pat path = false) (hstar : pat.reverse.head? ≠ some '*') :
    rewrite1 path (pat, value) = path := by
  unfold rewrite1
  simp only
  split
  · rename_i rp heq; rw [heq] at hstar; simp at hstar
  · simp [h]

/-- FULL STATEMENT (response).  The client-side response header set is the upstream's plus the
location's configured response headers; other keys are untouched. -/
theorem response_headers (l : LocCfg) (up : Header) (k : Str) (hk : ∀ kv ∈ l.respHeaders, kv.1 ≠ k) :
    (responseHeader l up).values k = up.values k := addAll_values_other up l.respHeaders k hk

/-- after the proxy the Accept-Encoding the client sent is back (first value), so the responder
negotiates with the client's own list -/
theorem accept_encoding_restored (f : Bool) (l : LocCfg) (ae : Str) (r : Req) (hne : ae.isEmpty = false) :
    (restoredHeader f l ae r).values hAcceptEncoding = [r.header.get hAcceptEncoding] := by
  simp [restoredHeader, hne, Header.values_set_same]

/- non-vacuity -/
example :
    let l : LocCfg := ⟨[("X-Via".toList, "pike".toList)], [], "k=v".toList, [("/api/*".toList, "/$1".toList)]⟩
    let r : Req := ⟨"GET".toList, "/api/users/1".toList, "b=2&a=1&flag".toList,
      [("If-None-Match".toList, ["\"x\"".toList]), ("Range".toList, ["bytes=0-9".toList]), ("X-Own".toList, ["1".toList])], []⟩
    let u := upstreamRequest true l "gzip".toList r
    u.path = "/users/1".toList ∧ u.rawQuery = "b=2&a=1&flag&k=v".toList
    ∧ u.header = [("X-Own".toList, ["1".toList]), ("X-Via".toList, ["pike".toList]), ("Accept-Encoding".toList, ["gzip".toList])] := by decide +kernel

/-- The location's added query parameters on the wire (`Model/Query.lean`, the function the `proxy` driver computes the
expected query with from the configured pairs): whatever bytes a configured name or value contains — `&`, `=`, `+`, `%`,
space, non-ASCII — the escaping is injective and undone exactly by the standard unescaping, so the upstream reads back
the configured value and nothing of it can be taken for a separator of the client's own query. -/
theorem added_parameter_recoverable (s : Str) (hb : ∀ c ∈ s, c.toNat < 256) :
    Query.unescape (Query.escape s) = some s := Query.unescape_escape s hb

theorem added_parameter_has_no_separator (s : Str) : '&' ∉ Query.escape s ∧ '=' ∉ Query.escape s ∧ ' ' ∉ Query.escape s :=
  ⟨fun h => absurd (Query.escape_chars s _ h) (by decide), fun h => absurd (Query.escape_chars s _ h) (by decide),
    fun h => absurd (Query.escape_chars s _ h) (by decide)⟩

example : Query.escape "a&b=c d%".toList = "a%26b%3Dc+d%25".toList := by decide +kernel

/-- "… yet the client itself still gets a 304 when its validators match" (`Model/Conditional.lean`: the decision of the
`fresh` step of `server.Start`'s chain, compared on every `cond` history of the `fault` suite — cold key and hit — with what
a real listening server answers): the client gets a 304 if and only if it sent at least one validator, did not ask for
revalidation (`Cache-Control: no-cache` in the request) and EVERY validator it sent matches the stored full answer —
`If-None-Match` by ETag (weak comparison, token list, `*`), `If-Modified-Since` by Last-Modified. -/
theorem client_304_iff_validators_match (imsPresent : Bool) (ims lm : Nat) (inm cc etag : Str)
    (hcc : Conditional.hasNoCache cc = false) :
    Conditional.check imsPresent ims inm cc lm etag = true ↔
      ((imsPresent = true ∨ inm ≠ []) ∧ Conditional.inmOK inm etag = true ∧ Conditional.imsOK imsPresent ims lm = true) :=
  ⟨Conditional.check_sound, fun ⟨hv, h1, h2⟩ => Conditional.check_complete hv hcc h1 h2⟩

example : Conditional.check true 1704067200 "\"zz\", W/\"c1\"".toList [] 1704067200 "\"c1\"".toList = true
    ∧ Conditional.check true 1703980800 "\"c1\"".toList [] 1704067200 "\"c1\"".toList = false
    ∧ Conditional.check false 0 "\"c1\"".toList "max-age=0, no-cache".toList 1704067200 "\"c1\"".toList = false := by decide +kernel

end C15
end Pike
