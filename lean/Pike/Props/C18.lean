import Pike.Props.C04
import Pike.Model.LRU
import Pike.Model.StoreMap
import Pike.Spec.Skeleton
/-
C18 — purge removes the entry everywhere and touches nothing else.
-/
namespace Pike
namespace C18
open Sys Entry

/-- Obligation on the regenerated statement skeletons of the three store back ends (store/redis.go, mongo.go,
badger.go): Get, Set and Delete of each address a record by THE SAME function of the key (redis: prefix + key in all
three; mongo: `Key = string(key)` in all three; badger: the key itself, Delete removing that one key), a miss is reported
as `ErrNotFound`, and a value is copied out before the transaction ends.  This is what lets `StoreMap` / `Sys.store`
treat a store as one partial map; the `store` suite checks it against real badger stores, redis and mongo cannot be
run in the sandbox, so for them this obligation is the tie. -/
theorem store_backends_transcribed :
    Facts.skel_redisStore_getKey = Spec.Skeleton.redisStore_getKey
    ∧ Facts.skel_redisStore_Get = Spec.Skeleton.redisStore_Get
    ∧ Facts.skel_redisStore_Set = Spec.Skeleton.redisStore_Set
    ∧ Facts.skel_redisStore_Delete = Spec.Skeleton.redisStore_Delete
    ∧ Facts.skel_mongoStore_Get = Spec.Skeleton.mongoStore_Get
    ∧ Facts.skel_mongoStore_Set = Spec.Skeleton.mongoStore_Set
    ∧ Facts.skel_mongoStore_Delete = Spec.Skeleton.mongoStore_Delete
    ∧ Facts.skel_badgerStore_Get = Spec.Skeleton.badgerStore_Get
    ∧ Facts.skel_badgerStore_Set = Spec.Skeleton.badgerStore_Set
    ∧ Facts.skel_badgerStore_Delete = Spec.Skeleton.badgerStore_Delete :=
  ⟨rfl, rfl, rfl, rfl, rfl, rfl, rfl, rfl, rfl, rfl⟩

/-- Obligation on the extracted lock scopes (regenerated from cache/dispatcher.go): the store
delete of a purge is issued while the shard mutex is held, and the get-or-create of a lookup
holds the same mutex — so for every request of that shard the removal from memory and from the
store is one atomic step, which is what the single `purge` event of `Sys.step` assumes. -/
theorem facts_purge_atomic :
    "dispatcher.RemoveHTTPCache:Delete:httpLRUCache" ∈ Facts.storeCalls
      ∧ (Facts.accessTable.filter fun a => a.typ = "httpLRUCache" ∧ a.field = "cache").all (fun a => a.lockW) = true := by
  decide +kernel

/-- FULL STATEMENT (effect).  Once `purge k` has completed (with the store delete acknowledged)
the key has no resident entry and no persisted record; other keys keep entry and record. -/
theorem purge_effect (s : State) (k : Key) :
    ∃ s', step Facts.waiterRereadsEntry s (.purge k true) = some s'
      ∧ s'.shard k = none ∧ s'.store k = none
      ∧ (∀ k', k' ≠ k → s'.shard k' = s.shard k' ∧ s'.store k' = s.store k')
      ∧ s'.entries = s.entries ∧ s'.pc = s.pc ∧ s'.queue = s.queue ∧ s'.lock = s.lock :=
  ⟨_, rfl, upd_same .., upd_same .., fun _ hk => ⟨upd_other _ _ _ _ hk, upd_other _ _ _ _ hk⟩, rfl, rfl, rfl, rfl⟩

/-- a purge never blocks (it takes only the shard mutex: `step` is defined in every state) and
never strands waiters: threads, waiter lists and the completer's detached list are untouched, so
the owner of a purged entry still drains them (C02 holds for orphaned entries too) -/
theorem no_block (s : State) (k : Key) (d : Bool) :
    ∃ s', step Facts.waiterRereadsEntry s (.purge k d) = some s' ∧ s'.pc = s.pc ∧ s'.entries = s.entries
      ∧ s'.queue = s.queue ∧ s'.lock = s.lock ∧ s'.owner = s.owner := ⟨_, rfl, rfl, rfl, rfl, rfl, rfl⟩

/-- purging an absent key is a no-op -/
theorem absent_noop (s : State) (k : Key) (h1 : s.shard k = none) (h2 : s.store k = none) (d : Bool) :
    step Facts.waiterRereadsEntry s (.purge k d) = some s := by
  have e1 : upd s.shard k none = s.shard := h1 ▸ upd_self s.shard k
  have e2 : upd s.store k none = s.store := h2 ▸ upd_self s.store k
  simp only [step, e1, e2, ite_self]

/-- FULL STATEMENT (next request).  After a completed purge, the next request for the key gets a
brand-new entry, an honest store has nothing to return for it, so the request becomes the
fetcher: it goes to the upstream and is not answered from the purged entry.  (A fetch of the key
that was in flight at purge time may still persist its result afterwards; for that case the
property only demands that nothing blocks — `no_block`.) -/
theorem next_goes_upstream {s s1 s2 : State} (h : Reachable Facts.waiterRereadsEntry s) (t : Tid) (k : Key) (so : Load)
    (hpc : s.pc t = .arrived k) (hsh : s.shard k = none)
    (hso : ∀ rec, so ≠ .record rec)     -- the record is gone: the store cannot honestly return one
    (h1 : step Facts.waiterRereadsEntry s (.lookup t) = some s1)
    (h2 : step Facts.waiterRereadsEntry s1 (.get t so) = some s2) :
    s1.pc t = .looked ⟨s.next⟩ ∧ s2.pc t = .fetchUp ⟨s.next⟩ := by
  cases C01.step_Step h1 with
  | lookupHit hpc' hsh' => cases hpc.symm.trans hpc'; cases hsh.symm.trans hsh'
  | lookupMiss hpc' =>
    cases hpc.symm.trans hpc'
    refine ⟨upd_same .., ?_⟩
    -- the fresh entry is `unknown` and nothing is loaded into it, so its first `get` claims the fetch
    have hg : Entry.get t s.now so { key := k } = ({ key := k, status := .fetching }, .fetch) := by
      cases so with
      | record rec => exact absurd rfl (hso rec)
      | _ => rfl
    obtain ⟨hp, -⟩ := (C01.step_Step h2).get_eq (e := ⟨s.next⟩) (upd_same ..) (by simpa using hg)
    exact hp ▸ upd_same ..

theorem find_erase_self (s : LRU.Shard) (k : Str) : LRU.find (LRU.erase s k) k = none := by
  simp [LRU.find, LRU.erase]

/-- a purge without a cache name clears the key in every cache; with a name only there; an
unknown name is a no-op (registry level, `LRU.Reg`) -/
theorem unnamed_all_caches (r : LRU.Reg) (key : Str) (hv : Nat) :
    (∀ c ∈ r.purge [] key hv, LRU.find (c.disp.shards (hv % c.disp.zones)) key = none ∧ (∀ s, c.store = some s → key ∉ s)) := by
  intro c hc
  obtain ⟨c0, -, rfl⟩ : ∃ c0 ∈ r, c0.purge key hv = c := by simpa [LRU.Reg.purge] using hc
  refine ⟨?_, fun s hs => ?_⟩
  · simp only [LRU.Cache.purge, LRU.remove, LRU.updF_same, find_erase_self]
  · obtain ⟨s0, -, rfl⟩ := Option.map_eq_some_iff.mp hs
    simp

theorem named_only_there (r : LRU.Reg) (name key : Str) (hv : Nat) (hn : name ≠ []) :
    (r.purge name key hv).length = r.length
    ∧ ∀ c ∈ r, c.name ≠ name → c ∈ r.purge name key hv :=
  ⟨List.length_map _, fun c hc hne => List.mem_map.mpr ⟨c, hc, by simp [hn, hne]⟩⟩

theorem unknown_cache_noop (r : LRU.Reg) (name key : Str) (hv : Nat) (hn : name ≠ [])
    (hno : ∀ c ∈ r, c.name ≠ name) : r.purge name key hv = r := by
  have : ∀ c ∈ r, (if name = [] ∨ c.name = name then c.purge key hv else c) = c := fun c hc => by simp [hn, hno c hc]
  rw [LRU.Reg.purge, List.map_congr_left this, List.map_id']

/-- The persisted copy (the map the `store` suite replays every real badger operation on): a completed delete leaves
no record for that key of that store and leaves every other record as it was. -/
theorem store_delete_exact (m : StoreMap.M) (k k' : StoreMap.K) (h : k' ≠ k) :
    StoreMap.get (StoreMap.del m k) k = none ∧ StoreMap.get (StoreMap.del m k) k' = StoreMap.get m k' :=
  ⟨StoreMap.get_del_same m k, StoreMap.get_del_other m k k' h⟩

example : StoreMap.get (StoreMap.del (StoreMap.set (StoreMap.set [] (0, 8) "a".toList) (0, 9) "b".toList) (0, 8)) (0, 9) = some "b".toList := by decide +kernel

end C18
end Pike
