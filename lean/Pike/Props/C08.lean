import Pike.Props.C04
import Pike.Props.C09
import Pike.Facts
import Pike.Spec.Skeleton
/-
C08 — persisted entries survive eviction, restart and kill: never stale, never corrupt.
Assumption (stated, exercised by the `crash` suite, not proved): the store is an atomic map —
a `Set` is either entirely there or not, and it never returns bytes that were not written to it
(`Sys.Honest`); badger's own durability and recovery are trusted.
-/
namespace Pike
namespace C08
open Sys Entry

/-- Obligation on the regenerated statement skeleton of `main.main` (a graceful stop): on a signal the servers are
closed gracefully and the process exits — nothing is written, flushed or deleted on the way out, so after a graceful
stop the store holds exactly what the completed `saved` steps put there, as after a kill (which `Sys.step .crash` and
the `crash` suite cover). -/
theorem graceful_stop_transcribed : Facts.skel_main = Spec.Skeleton.main_main := rfl

/-- Obligation on the regenerated statement skeletons of the three store back ends (store/redis.go, mongo.go,
badger.go): Get, Set and Delete of each address a record by THE SAME function of the key (redis: prefix + key in all
three; mongo: `Key = string(key)` in all three; badger: the key itself, Delete removing that one key), a miss is reported
as `ErrNotFound`, and a value is copied out before the transaction ends.  This is what lets `StoreMap` / `Sys.store`
treat a store as one partial map; the `store` suite checks it against real badger stores, redis and mongo cannot be
run in the sandbox, so for them this obligation is the tie. -/
theorem store_backends_transcribed :
    Facts.skel_redisStore_getKey = Spec.Skeleton.redisStore_getKey
    ∧ Facts.skel_redisStore_Get = Spec.Skeleton.redisStore_Get
    ∧ Facts.skel_redisStore_Set = Spec.Skeleton.redisStore_Set
    ∧ Facts.skel_redisStore_Delete = Spec.Skeleton.redisStore_Delete
    ∧ Facts.skel_mongoStore_Get = Spec.Skeleton.mongoStore_Get
    ∧ Facts.skel_mongoStore_Set = Spec.Skeleton.mongoStore_Set
    ∧ Facts.skel_mongoStore_Delete = Spec.Skeleton.mongoStore_Delete
    ∧ Facts.skel_badgerStore_Get = Spec.Skeleton.badgerStore_Get
    ∧ Facts.skel_badgerStore_Set = Spec.Skeleton.badgerStore_Set
    ∧ Facts.skel_badgerStore_Delete = Spec.Skeleton.badgerStore_Delete :=
  ⟨rfl, rfl, rfl, rfl, rfl, rfl, rfl, rfl, rfl, rfl⟩

/-- Obligation on the extracted facts: pike's own code uses no `sync.Pool` — the bytes of a record handed to the store are not a view of a buffer another save reuses (the models treat them as immutable values). -/
theorem facts_no_pooled_buffers : Facts.syncPoolSites = [] := rfl

/-- Obligation on the extracted facts (store/*.go): every store constructor returns the interface type
`Store`: "pike always starts and serves" also when the store cannot be opened after a stop or kill
(directory still locked, unreadable) — a nil interface makes the dispatcher memory-only. -/
theorem facts_store_constructors_return_interface :
    Facts.storeConstructorResults.all (fun s => s = "Store") = true ∧ Facts.storeConstructorResults ≠ [] := by decide +kernel

/-- FULL STATEMENT (records are genuine).  In every state reachable by any schedule with any
kill points (`crash` may occur between ANY two atomic steps: before/during/after fetch, drain,
save, purge), evictions and concurrent writers, every hit record in the store is the
(response, createdAt, expiredAt) triple of a fetch that completed for that very key. -/
theorem store_records_genuine {s : State} (h : ReachableH s) (k : Key) (rec : Rec)
    (hr : s.store k = some rec) (hh : rec.status = .hit) :
    ∃ n, rec.resp = some n ∧ (k, n, rec.createdAt, rec.expiredAt) ∈ s.fetched ∧ rec.createdAt < rec.expiredAt :=
  (inv_reachableH h).2.store_prov k rec hr hh

/-- FULL STATEMENT (after restart or eviction).  After `crash` (or a `drop` of the key) a request
for the key gets a fresh entry and loads the record.  If it is answered from cache, the response
is the one originally fetched for that key, unchanged, `now` is not past the ORIGINAL expiry, and
the Age it reports continues from the original fetch (`now - original createdAt`) — without any
upstream contact; otherwise it refetches.  It is never served altered or after its expiry. -/
theorem restored_served_or_refetched {s s' : State} (h : ReachableH s) (t : Tid) (e : Eid) (so : Load)
    (hpc : s.pc t = .looked e) (hfresh : (s.entries e).status = .unknown)
    (hon : Honest s (.get t so)) (hs : step false s (.get t so) = some s') :
    (∃ n c x, s'.pc t = .hitServe e (some n) ∧ ((s.entries e).key, n, c, x) ∈ s'.fetched ∧ s.now ≤ x
        ∧ (s'.entries e).createdAt = c ∧ (s'.entries e).expiredAt = x)
    ∨ s'.pc t = .fetchUp e ∨ s'.pc t = .passUp := by
  obtain ⟨hi, h2⟩ := inv_reachableH h
  have hok := hi.entry_ok e
  rcases hg : Entry.get t s.now so (s.entries e) with ⟨en, g⟩
  obtain ⟨hp, he, -, -, hf⟩ := (Step.of_step hs).get_eq hpc hg
  rw [hp, he, hf, upd_same, upd_same]
  cases g with
  | fetch => exact .inr (.inl rfl)
  | pass => exact .inr (.inr rfl)
  | wait =>
    -- only a `fetching` entry makes its caller wait
    obtain ⟨-, -, e1, hr, hst, -⟩ := Entry.get_spec hok hg
    rw [hr.fetching hst] at hfresh
    cases hfresh
  | hit r =>
    obtain ⟨⟨n, rfl, hmem, -⟩, hle⟩ := getHit_fetched hi h2 hpc hon hg
    exact .inl ⟨n, _, _, rfl, hmem, hle, rfl, rfl⟩

/-- the record is written after the waiters are released: a kill between the two loses only the
persistence, never a waiter -/
theorem saved_after_release {s s' : State} (t : Tid) (e : Eid) (o : Outcome) (ok : Bool)
    (hpc : s.pc t = .draining e o) (hs : step false s (.saved t ok) = some s') : s.queue e = [] :=
  saved_queue_empty hpc (.of_step hs)

/-- hit-for-pass markers are persisted under the same rules: what is written is the entry as
completed, and only well-formed markers are taken back -/
theorem markers_persisted (s : State) (t : Tid) (e : Eid) (o : Outcome)
    (hpc : s.pc t = .draining e o) (hq : s.queue e = []) (hst : s.hasStore = true) :
    ∃ s', step false s (.saved t true) = some s' ∧ s'.store (s.entries e).key = some (Entry.toRec (s.entries e)) := by
  simp only [step, hpc, hq, ne_eq, not_true_eq_false, if_false, hst, and_self, if_true]
  exact ⟨_, rfl, by simp⟩

/-- bytes level: what is restored is exactly what was written (C09), so "unchanged" extends to
status line, headers and every body variant -/
theorem bytes_roundtrip {H : Type} (c : Codec.HCodec H) (e : Codec.Entry H) (wf : Codec.EntryWF c e) :
    Codec.decodeEntry c (Codec.encodeEntry c e) = some (Codec.normalize c e) := C09.decode_encode c e wf

/- non-vacuity: fetch, save, crash, restart: served from the record with Age continuing; later
   past the original expiry: refetched -/
example :
    (match run false (init 100 true)
      [.arrive ⟨0⟩ ⟨0⟩, .lookup ⟨0⟩, .get ⟨0⟩ .notFound, .upEnd ⟨0⟩ (.cacheable 10 7), .complete ⟨0⟩ 0, .saved ⟨0⟩ true,
       .crash, .tick 4, .arrive ⟨1⟩ ⟨0⟩, .lookup ⟨1⟩, .get ⟨1⟩ (.record ⟨.hit, some 7, 100, 110⟩), .age ⟨1⟩,
       .crash, .tick 7, .arrive ⟨2⟩ ⟨0⟩, .lookup ⟨2⟩, .get ⟨2⟩ (.record ⟨.hit, some 7, 100, 110⟩)] with
     | some s => decide (s.pc ⟨2⟩ = .fetchUp ⟨2⟩) && decide (s.store ⟨0⟩ = some ⟨.hit, some 7, 100, 110⟩)
     | none => false) = true := by decide +kernel

end C08
end Pike
