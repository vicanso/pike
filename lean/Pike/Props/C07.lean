import Pike.Props.C02
/-
C07 — hit-for-pass: uncacheable keys bypass cache and queueing until it lapses.
-/
namespace Pike
namespace C07
open Sys Entry

/-- Obligation on the extracted facts: the default period is 300 s and is applied exactly when
the configured period is ≤ 0 (unset, "500ms" and "-5s" all convert to ≤ 0 seconds). -/
theorem facts_ok : Facts.defaultHitForPassSeconds = 300 ∧ Facts.hitForPassGuard = "ttl<=0" := ⟨rfl, rfl⟩

/-- Obligation on the extracted facts (upstream/upstream.go): the transport of an upstream sets no
limit on concurrent connections per host — `net/http` would otherwise queue the passes of a burst
behind one another although the cache layer forwarded them independently. -/
theorem facts_passes_not_capped :
    (Facts.transportFields.contains "MaxConnsPerHost") = false := by decide +kernel

/-- FULL STATEMENT (during the period).  While the marker is valid every lookup returns
"pass" at once: the caller is not registered as a waiter, nothing is served from cache, and
the entry is left exactly as it was — so any number of such requests proceed to the upstream
independently (no step of one changes what another sees). -/
theorem pass_immediately (t : Tid) (now : Int) (so : Load) (e : Entry)
    (hst : e.status = .hitForPass) (hvalid : now ≤ e.expiredAt) :
    Entry.get t now so e = (e, .pass) :=
  Entry.get_pass t now so hst hvalid

/-- the same at system level: the step moves only the caller, straight into its own upstream
phase -/
theorem pass_is_independent {s s' : State} (t : Tid) (e : Eid) (so : Load)
    (hpc : s.pc t = .looked e) (hst : (s.entries e).status = .hitForPass) (hvalid : s.now ≤ (s.entries e).expiredAt)
    (hs : step Facts.waiterRereadsEntry s (.get t so) = some s') :
    s'.pc t = .passUp ∧ s'.entries = s.entries ∧ s'.queue = s.queue ∧ s'.lock = s.lock
    ∧ ∀ u, u ≠ t → s'.pc u = s.pc u := by
  obtain ⟨hp, he, hq, hl, -⟩ := (C01.step_Step hs).get_eq hpc (pass_immediately t s.now so (s.entries e) hst hvalid)
  exact ⟨hp ▸ upd_same .., he ▸ upd_self .., hq, hl, fun u hu => hp ▸ upd_other _ _ _ _ hu⟩

/-- FULL STATEMENT (the period).  The marker set at time `now` is valid through
`now + ttl` for a positive configured period, and through `now + 300` otherwise. -/
theorem default_period (now ttl : Int) (e : Entry) :
    (Entry.hitForPass now ttl e).status = .hitForPass
    ∧ (Entry.hitForPass now ttl e).expiredAt = now + (if ttl ≤ 0 then 300 else ttl) := by
  refine ⟨rfl, ?_⟩
  simp only [Entry.hitForPass, Entry.hfpTtl, facts_ok.1]

/-- every way a fetch can fail to be cacheable (uncacheable, nil response, error, timeout,
panic: all reach the deferred `HitForPass`) sets the marker and releases the waiter list -/
theorem set_on_failure (now hfp : Int) (e : Entry) :
    (completeEntry .fail now hfp e).status = .hitForPass ∧ (completeEntry .fail now hfp e).waiters = [] := ⟨rfl, rfl⟩

/-- FULL STATEMENT (lapse).  The first lookup after the period makes its caller the single
prober (the entry is `fetching` again; by C01 later arrivals wait for it) ... -/
theorem lapse_single_probe (t : Tid) (now : Int) (so : Load) (e : Entry) (h : Entry.OK e)
    (hst : e.status = .hitForPass) (hexp : e.expiredAt < now) :
    (Entry.get t now so e).2 = .fetch ∧ (Entry.get t now so e).1.status = .fetching
    ∧ ∀ u so', (Entry.get u now so' (Entry.get t now so e).1).2 = .wait := by
  rw [Entry.get_expired t now so (.inr hst) (h.exp_nonzero (.inr hst)) hexp]
  exact ⟨rfl, rfl, fun u so' => by rw [Entry.get_fetching u now so' rfl rfl]⟩

/-- ... and the key becomes cacheable if the upstream now allows it -/
theorem becomes_cacheable (now ttl hfp : Int) (r : Nat) (e : Entry) :
    (completeEntry (.cacheable ttl r) now hfp e).status = .hit
    ∧ (completeEntry (.cacheable ttl r) now hfp e).resp = some r
    ∧ (completeEntry (.cacheable ttl r) now hfp e).expiredAt = now + ttl := ⟨rfl, rfl, rfl⟩

/- non-vacuity: uncacheable answer, two independent passes during the period, lapse, one prober,
   one waiter, then cacheable -/
example :
    (match run false (init 100 false)
      [.arrive ⟨0⟩ ⟨0⟩, .lookup ⟨0⟩, .get ⟨0⟩ .noStore, .upEnd ⟨0⟩ .fail, .complete ⟨0⟩ 0, .saved ⟨0⟩ true,
       .tick 300, .arrive ⟨1⟩ ⟨0⟩, .lookup ⟨1⟩, .get ⟨1⟩ .noStore, .arrive ⟨2⟩ ⟨0⟩, .lookup ⟨2⟩, .get ⟨2⟩ .noStore,
       .tick 1, .arrive ⟨3⟩ ⟨0⟩, .lookup ⟨3⟩, .get ⟨3⟩ .noStore, .arrive ⟨4⟩ ⟨0⟩, .lookup ⟨4⟩, .get ⟨4⟩ .noStore,
       .upEnd ⟨3⟩ (.cacheable 60 9), .complete ⟨3⟩ 0] with
     | some s => decide (s.pc ⟨1⟩ = .passUp) && decide (s.pc ⟨2⟩ = .passUp) && decide (s.pc ⟨4⟩ = .registered ⟨0⟩)
                 && decide ((s.entries ⟨0⟩).status = .hit)
     | none => false) = true := by decide +kernel

end C07
end Pike
