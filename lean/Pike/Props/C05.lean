import Pike.Lemmas.Resp
import Pike.Lemmas.Tokens
import Pike.Lemmas.Codec
import Pike.Spec.Skeleton
import Pike.Facts
/-
C05 — bodies, status and headers are delivered unaltered for every encoding mix.
`k : Codecs` is the bundle of compression libraries, assumed to satisfy `CodecsOK`
(round trips, non-empty output); everything else is pike's own logic.
-/
namespace Pike
namespace C05
open Resp Str

/-- Obligation on the extracted facts: pike's own code uses no `sync.Pool` — bodies and headers of a stored response are values: what one client was sent or what the entry holds is not a view of a buffer that a later compression or decompression reuses (the models treat them as immutable values). -/
theorem facts_no_pooled_buffers : Facts.syncPoolSites = [] := by decide

/-- Obligation on the regenerated statement skeletons of `GetRawBody`, `Compress` and `Fill`: they are what `Resp.rawBody`, `Resp.compressStore` and `Resp.fill` transcribe (identity body from the gzip, else br variant; both variants made and the raw body dropped when stored; headers merged, then Content-Encoding set). -/
theorem skeleton_transcribed :
    Facts.skel_HTTPResponse_GetRawBody = Spec.Skeleton.HTTPResponse_GetRawBody
    ∧ Facts.skel_HTTPResponse_Compress = Spec.Skeleton.HTTPResponse_Compress
    ∧ Facts.skel_HTTPResponse_Fill = Spec.Skeleton.HTTPResponse_Fill := by
  refine ⟨?_, ?_, ?_⟩ <;> rfl

/-- the documented content codings a client may list -/
def alphabet : List Str :=
  ["gzip", "br", "deflate", "identity", "zstd", "compress", "x-gzip", "*", "lz4", "snz", "zst"].map String.toList

/-- in the documented alphabet only `br` contains "br" and only `gzip`/`x-gzip` contain "gzip" -/
theorem alphabet_unambiguous :
    (∀ t ∈ alphabet, contains encBr t = true → t = encBr)
    ∧ (∀ t ∈ alphabet, contains encGzip t = true → t = encGzip ∨ t = "x-gzip".toList) := by decide +kernel

/-- the upstream's decoded body; gzip/br data is kept as received, and an empty body needs no
decoding -/
def upstreamBody (k : Codecs) (enc data : Str) : Option Str :=
  if (enc = encGzip ∨ enc = encBr) ∧ data.isEmpty then some [] else decompress k enc data

/-- the response object built from an upstream answer represents the upstream's decoded body,
for each of the documented encodings (and `newResponse` fails for any other) -/
theorem newResponse_rep (k : Codecs) (code : Nat) (h : Header) (enc data srv : Str) (ml : Nat) (f : Option MiniRe.Alt)
    (r : R) (body : Str) (hr : newResponse k code h enc data srv ml f = some r)
    (hb : upstreamBody k enc data = some body) : Rep k r body := by
  unfold upstreamBody at hb
  revert hr
  fun_cases newResponse k code h enc data srv ml f <;> intro hr <;> cases hr
  next hgz =>
    subst hgz
    refine ⟨nofun, fun hd => ?_, nofun, fun _ hd _ => ?_⟩
    · rwa [if_neg fun hc => Bool.false_ne_true (hd.symm.trans hc.2), decompress, if_pos rfl] at hb
    · rw [if_pos ⟨.inl rfl, hd⟩] at hb; exact (Option.some.inj hb).symm
  next hgz hbr =>
    subst hbr
    refine ⟨nofun, nofun, fun hd => ?_, fun _ _ hd => ?_⟩
    · rwa [if_neg fun hc => Bool.false_ne_true (hd.symm.trans hc.2), decompress, if_neg hgz, if_pos rfl] at hb
    · rw [if_pos ⟨.inr rfl, hd⟩] at hb; exact (Option.some.inj hb).symm
  next hgz hbr hid =>
    subst hid
    rw [if_neg (fun hc => hc.1.elim hgz hbr), decompress_nil] at hb
    cases hb
    exact ⟨fun _ => rfl, nofun, nofun, fun hd _ _ => List.isEmpty_iff.mp hd⟩
  next hgz hbr _ d hd =>
    rw [if_neg (fun hc => hc.1.elim hgz hbr), hd] at hb
    cases hb
    exact ⟨fun _ => rfl, nofun, nofun, fun hd _ _ => List.isEmpty_iff.mp hd⟩

theorem newResponse_code_header {k : Codecs} {code : Nat} {h : Header} {enc data srv : Str} {ml : Nat}
    {f : Option MiniRe.Alt} {r : R} (hr : newResponse k code h enc data srv ml f = some r) :
    r.code = code ∧ r.header = cloneAndIgnore h := by
  revert hr
  fun_cases newResponse k code h enc data srv ml f <;> intro hr <;> cases hr <;> exact ⟨rfl, rfl⟩

/-- FULL STATEMENT.  For every status code, header set, upstream encoding among the
documented six, upstream data valid for that encoding, server settings (service, min-length,
filter), cacheable or not, persisted and restored or not, and every client Accept-Encoding
that is a plain list of documented codings:
the client gets a body that decodes (per the returned Content-Encoding) to exactly the upstream's
decoded body, the Content-Encoding is absent or one of the tokens the client listed, and the
status code and the stored headers are those of the upstream minus the four hop/representation
headers.  `path` selects: fresh response, after pre-compression (cacheable / hit / waiter), after
a store round trip. -/
theorem negotiate_sound (k : Codecs) (ok : CodecsOK k)
    (code : Nat) (h : Header) (enc data srv : Str) (ml : Nat) (f : Option MiniRe.Alt)
    (r : R) (body ae : Str)
    (hr : newResponse k code h enc data srv ml f = some r)
    (hb : upstreamBody k enc data = some body)
    (hae : ∀ t ∈ tokens ae, t ∈ alphabet)
    (r' : R) (hpath : r' = r ∨ r' = forCache k r) :
    ∃ e out src, negotiate k r' ae = some (e, out, src)
      ∧ decodeFor k e out = some body
      ∧ (e = [] ∨ e ∈ tokens ae ∨ (e = encGzip ∧ "x-gzip".toList ∈ tokens ae))
      ∧ r'.code = code ∧ r'.header = cloneAndIgnore h := by
  have hrep : Rep k r body := newResponse_rep k code h enc data srv ml f r body hr hb
  have hf := newResponse_code_header hr
  have hrep' : Rep k r' body ∧ r'.code = code ∧ r'.header = cloneAndIgnore h := by
    rcases hpath with rfl | rfl
    · exact ⟨hrep, hf⟩
    · have hc := forCache_code_header k r
      exact ⟨forCache_rep ok hrep, hc.1.trans hf.1, hc.2.trans hf.2⟩
  obtain ⟨e, out, src, hn, hdec, hacc⟩ := negotiate_rep ok hrep'.1 ae
  refine ⟨e, out, src, hn, hdec, ?_, hrep'.2⟩
  rcases hacc with h0 | ⟨he, hc⟩ | ⟨he, hc⟩
  · exact .inl h0
  all_goals obtain ⟨t, ht, hin⟩ := contains_token (by decide +kernel) hc
  · exact .inr (.inl (he ▸ alphabet_unambiguous.1 t (hae t ht) hin ▸ ht))
  · rcases alphabet_unambiguous.2 t (hae t ht) hin with h | h
    · exact .inr (.inl (he ▸ h ▸ ht))
    · exact .inr (.inr ⟨he, h ▸ ht⟩)

/-- the store round trip (C09) returns the very same fields, so the restored path is the
pre-compressed path: stated on the record codec with the identity header codec -/
theorem restored_same_variants (c : Codec.HCodec Str) (e : Codec.Entry Str) (wf : Codec.EntryWF c e)
    (r : Codec.Resp Str) (he : e.resp = some r) :
    (Codec.decodeEntry c (Codec.encodeEntry c e)).map (·.resp) = some (some r) := by
  rw [Codec.decodeEntry_encodeEntry c e wf]
  simp [Codec.normalize, he]

/-- the empty body and the bodies at the threshold: nothing is compressed at `len = minLength` -/
theorem at_threshold_identity (k : Codecs) (r : R) (ae : Str)
    (hraw : r.gz = [] ∧ r.br = []) (hlen : r.raw.length ≤ r.minLength) :
    negotiate k r ae = some ([], r.raw, .identity) := by
  obtain ⟨hgz, hbr⟩ := hraw
  have hs : shouldCompress r = false := by simp [shouldCompress, hgz, hbr, hlen]
  have hb : getRawBody k r = some r.raw := by
    unfold getRawBody
    rw [hgz, hbr]
    cases r.raw <;> rfl
  simp [negotiate, hgz, hbr, hs, hb]

/- non-vacuity: a symbolic codec bundle satisfying CodecsOK, and a concrete run -/
def symK : Codecs :=
  ⟨fun _ b => 'g' :: b, fun _ b => 'b' :: b,
   fun s => match s with | 'g' :: b => some b | _ => none,
   fun s => match s with | 'b' :: b => some b | _ => none,
   fun s => some s, fun s => some s, fun s => some s⟩
example : CodecsOK symK := ⟨fun _ _ => rfl, fun _ _ => rfl, fun _ _ => rfl, fun _ _ => rfl⟩
/- instance search gives up on a type of this size -/
local instance : DecidableEq (Option (Str × Str × Src) × Header) := instDecidableEqProd
example :
    (newResponse symK 200 [("Content-Type".toList, ["text/plain".toList]), ("Date".toList, ["x".toList])] [] "hello".toList [] 2 none).map
      (fun r => (negotiate symK (forCache symK r) "gzip, deflate".toList, (forCache symK r).header))
    = some (some (encGzip, "ghello".toList, .stored), [("Content-Type".toList, ["text/plain".toList])]) := by decide +kernel

end C05
end Pike
