import Pike.Lemmas.Resp
import Pike.Spec.Skeleton
import Pike.Facts
/-
C13 — content-encoding negotiation follows the documented decision table (docs/response.md).
-/
namespace Pike
namespace C13
open Resp Str MiniRe

/-- Obligation on the regenerated statement skeletons of `shouldCompressed` and `getBodyByAcceptEncoding`: they are, statement for statement, the decision procedure `Resp.negotiate` transcribes (stored br, stored gzip, size/type test, br before gzip, identity). -/
theorem skeleton_transcribed :
    Facts.skel_HTTPResponse_shouldCompressed = Spec.Skeleton.HTTPResponse_shouldCompressed
    ∧ Facts.skel_HTTPResponse_getBodyByAcceptEncoding = Spec.Skeleton.HTTPResponse_getBodyByAcceptEncoding := by
  refine ⟨?_, ?_⟩ <;> rfl

/-- the rows of the documented table -/
inductive Choice | storedBr | storedGzip | identity | freshBr | freshGzip
deriving Repr, DecidableEq

/-- docs/response.md, "从HTTP Response中响应数据", row by row -/
def table (acceptBr acceptGzip hasBr hasGzip should : Bool) : Choice :=
  if acceptBr && hasBr then .storedBr
  else if acceptGzip && hasGzip then .storedGzip
  else if !should then .identity
  else if acceptBr then .freshBr
  else if acceptGzip then .freshGzip
  else .identity

def choiceOf (e : Str) (s : Src) : Option Choice :=
  if e = encBr ∧ s = .stored then some .storedBr
  else if e = encGzip ∧ s = .stored then some .storedGzip
  else if e = encBr ∧ s = .fresh then some .freshBr
  else if e = encGzip ∧ s = .fresh then some .freshGzip
  else if e = [] ∧ s = .identity then some .identity
  else none

/-- `negotiate` is the documented table followed by taking the bytes that the chosen row names;
it fails only where a row needs the raw body and the stored variant does not decode. -/
theorem negotiate_eq_table (k : Codecs) (r : R) (ae : Str) :
    negotiate k r ae =
      match table (contains encBr ae) (contains encGzip ae) (!r.br.isEmpty) (!r.gz.isEmpty) (shouldCompress r) with
      | .storedBr => some (encBr, r.br, .stored)
      | .storedGzip => some (encGzip, r.gz, .stored)
      | .identity => (getRawBody k r).map fun raw => ([], raw, .identity)
      | .freshBr => (getRawBody k r).map fun raw => (encBr, k.brotli r.srv raw, .fresh)
      | .freshGzip => (getRawBody k r).map fun raw => (encGzip, k.gzip r.srv raw, .fresh) := by
  unfold negotiate table
  grind

theorem choiceOf_rows :
    choiceOf encBr .stored = some .storedBr ∧ choiceOf encGzip .stored = some .storedGzip
    ∧ choiceOf [] .identity = some .identity
    ∧ choiceOf encBr .fresh = some .freshBr ∧ choiceOf encGzip .fresh = some .freshGzip := by decide +kernel

/-- FULL STATEMENT.  On all inputs, whenever a body can be produced, the encoding decision is
the documented table applied to (client accepts br, client accepts gzip, br stored, gzip stored,
"should compress"), and the body is the stored variant / the raw body / a fresh compression
accordingly. -/
theorem table_followed (k : Codecs) (r : R) (ae e out : Str) (s : Src)
    (h : negotiate k r ae = some (e, out, s)) :
    choiceOf e s = some (table (contains encBr ae) (contains encGzip ae)
      (!r.br.isEmpty) (!r.gz.isEmpty) (shouldCompress r))
    ∧ (s = .stored → (e = encBr → out = r.br) ∧ (e = encGzip → out = r.gz))
    ∧ (s ≠ .stored → ∃ raw, getRawBody k r = some raw ∧
        (s = .identity → out = raw) ∧ (s = .fresh → (e = encBr → out = k.brotli r.srv raw) ∧ (e = encGzip → out = k.gzip r.srv raw))) := by
  have d : encBr ≠ encGzip := by decide +kernel
  rw [negotiate_eq_table] at h
  generalize table .. = row at h ⊢
  cases row
  case storedBr | storedGzip => cases h; simp [choiceOf_rows, d, d.symm]
  all_goals
    obtain ⟨raw, hraw, hf⟩ := Option.map_eq_some_iff.mp h
    cases hf
    simp [choiceOf_rows, hraw, d, d.symm]

/-- "should compress" = some variant strictly longer than the minimum length AND the content
type matches the filter (the response's own, else the default); AT the threshold nothing is
compressed -/
theorem should_iff (r : R) (f : Alt) (hf : effectiveFilter r = some f) :
    shouldCompress r = true ↔
      (r.raw.length > r.minLength ∨ r.gz.length > r.minLength ∨ r.br.length > r.minLength)
      ∧ f.matches (r.header.get hContentType) = true := by
  unfold shouldCompress
  rw [hf]
  split
  · exact ⟨nofun, fun h => by omega⟩
  · exact ⟨fun h => ⟨by omega, h⟩, fun h => h.2⟩

/-- a client accepting neither br nor gzip always gets identity -/
theorem neither_identity (k : Codecs) (r : R) (ae e out : Str) (s : Src)
    (hb : contains encBr ae = false) (hg : contains encGzip ae = false)
    (h : negotiate k r ae = some (e, out, s)) : e = [] ∧ s = .identity := by
  have row : ∀ b g sc, table false false b g sc = .identity := by decide
  rw [negotiate_eq_table, hb, hg, row] at h
  obtain ⟨_, _, hf⟩ := Option.map_eq_some_iff.mp h
  cases hf
  exact ⟨rfl, rfl⟩

/-- the default content-type filter is the documented list, and the profile used when an entry
becomes cacheable is `bestCompression` -/
theorem filter_and_profile :
    defaultFilter = some ⟨false, ["text", "javascript", "json", "wasm", "xml", "font"].map String.toList⟩
    ∧ Facts.cacheableProfile = "BestCompression" ∧ Facts.bestCompressionName = "bestCompression" :=
  ⟨by decide +kernel, rfl, rfl⟩

/-- Cacheable compressible responses are compressed once when stored, and not again per
request: after `forCache` both variants are present and the raw body is dropped, and every
later negotiation for a client accepting br or gzip returns a stored variant (no codec call). -/
theorem precompressed_once (k : Codecs) (ok : CodecsOK k) (r : R) (raw : Str)
    (hone : r.gz.isEmpty = true ∨ r.br.isEmpty = true)   -- as built by `newResponse`: at most one compressed variant
    (hs : shouldCompress r = true) (hraw : getRawBody k r = some raw) (hne : raw.isEmpty = false) :
    (forCache k r).gz.isEmpty = false ∧ (forCache k r).br.isEmpty = false ∧ (forCache k r).raw = []
    ∧ (forCache k r).srv = Facts.bestCompressionName.toList
    ∧ ∀ ae e out s, (contains encBr ae = true ∨ contains encGzip ae = true) →
        negotiate k (forCache k r) ae = some (e, out, s) → s = .stored := by
  have hfc := compress_eq (r := { r with srv := Facts.bestCompressionName.toList })
    ((shouldCompress_srv r _).trans hs) hone ((getRawBody_srv k r _).trans hraw) hne
  have hgz : (forCache k r).gz.isEmpty = false :=
    (congrArg (·.gz.isEmpty) hfc).trans (filled_isEmpty (ok.gz_ne ..))
  have hbr : (forCache k r).br.isEmpty = false :=
    (congrArg (·.br.isEmpty) hfc).trans (filled_isEmpty (ok.br_ne ..))
  refine ⟨hgz, hbr, congrArg (·.raw) hfc, by rw [forCache, hfc], fun ae e out s hacc hn => ?_⟩
  have row : ∀ aBr aGz sc, aBr = true ∨ aGz = true →
      table aBr aGz true true sc = .storedBr ∨ table aBr aGz true true sc = .storedGzip := by decide
  rw [negotiate_eq_table, hgz, hbr, Bool.not_false] at hn
  rcases row _ _ _ hacc with h | h <;> rw [h] at hn <;> cases hn <;> rfl

end C13
end Pike
