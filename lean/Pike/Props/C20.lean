import Pike.Model.Race
import Pike.Props.C08
import Pike.Props.C06
import Pike.Facts
/-
C20 — concurrent requests, purges and reloads never corrupt shared state.
Three layers: (1) the lockset theorem about abstract executions, (2) the extracted access table
(regenerated from the Go source: which field is touched under which lock) satisfies the
discipline the theorem needs, (3) the protocol invariants of `Sys` (every response handed out
was fetched for that key).  Outside: the Go memory model itself, the libraries (elton,
net/http, sync.Map, atomics), and that the syntactic lock scopes are the dynamic ones.
-/
namespace Pike
namespace C20
open Race

/-- Obligation on the extracted facts: pike's own code uses no `sync.Pool` — no value that one request holds is backed by memory another request writes (the models treat them as immutable values). -/
theorem facts_no_pooled_buffers : Facts.syncPoolSites = [] := rfl

/-- (1) FULL STATEMENT about executions: under mutex semantics, if every write of a location
holds lock `l` in write mode and every read holds it in read or write mode, any two conflicting
accesses by different threads are ordered by happens-before — no data race on that location. -/
theorem lockset_racefree (tr : Trace) (hwf : WF tr) (x l : Nat)
    (hdisc : ∀ i t w, isAccess tr i t x w → Holds tr i t l w ∨ (w = false ∧ Holds tr i t l true))
    (i j t u : Nat) (ai aj : Bool) (hij : i < j) (htu : t ≠ u) (hconf : ai = true ∨ aj = true)
    (hi : isAccess tr i t x ai) (hj : isAccess tr j u x aj) : HB tr i j := by
  -- under the discipline an access holds `l` in some mode, and a write holds it in write mode
  have held : ∀ i t w, isAccess tr i t x w → ∃ m, Holds tr i t l m ∧ (w = true → m = true) := fun i t w h =>
    (hdisc i t w h).elim (fun h => ⟨w, h, id⟩) (fun h => ⟨true, h.2, fun _ => rfl⟩)
  obtain ⟨wi, hhi, hwi⟩ := held i t ai hi
  obtain ⟨wj, hhj, hwj⟩ := held j u aj hj
  exact lockset_ordered tr hwf i j t u l x wi wj ai aj hij htu (hconf.imp hwi hwj) hi hj hhi hhj

/-- an access satisfies the discipline: on a thread-local (freshly built) object, or a write
under the write lock, or a read under either lock -/
def guarded (a : Facts.Access) : Bool :=
  a.fresh || (if a.write then a.lockW else (a.lockW || a.lockR))

/-- (2) Obligation on the extracted access table: every access to the mutable fields of a cache
entry (status, chanList, response, createdAt, expiredAt), to a shard's LRU, to the server's
reloadable settings and to the location list is guarded by that object's mutex, and no entry
field is read after a channel receive (the waiter uses what was handed over). -/
theorem table_guarded :
    Facts.accessTable.all (fun a => guarded a && !(a.typ == "httpCache" && a.afterRecv)) = true := by decide +kernel

/-- the table is not empty and covers the functions of the request path -/
theorem table_covers :
    (["httpCache.get", "httpCache.Cacheable", "httpCache.HitForPass", "httpCache.Age", "httpCache.saveToStore",
      "httpCache.initFromStore", "httpLRUCache.getCache", "httpLRUCache.addCache", "httpLRUCache.removeCache",
      "server.Update", "server.GetCache", "server.GetLocations", "server.GetCompress", "Locations.Set",
      "Locations.GetLocations"].all fun f => Facts.accessTable.any (fun a => a.fn == f)) = true := by decide +kernel

/-- no function holds two of these mutexes at once (in particular never a shard mutex together
with an entry mutex), and the only blocking operation performed under a mutex is the completer's
send to a registered waiter — whose receiver takes no lock before receiving: no wait-for cycle
can close (C02's "no deadlock between requests, purges and completions"; store calls made under
a mutex are assumed to return) -/
theorem no_lock_cycle :
    Facts.lockNesting = []
    ∧ Facts.blockingUnderLock.all (fun s => s == "httpCache.Cacheable:send:httpCache" || s == "httpCache.HitForPass:send:httpCache") = true := by
  decide +kernel

/-- (3) every response handed out is one fetched for that key: restated from C04/C08/C06 -/
theorem served_is_fetched_for_key {s s' : Sys.State} (h : Sys.ReachableH s) (t : Tid) (e : Eid) (so : Load) (r : Option Nat)
    (hpc : s.pc t = .looked e) (hon : Sys.Honest s (.get t so))
    (hs : Sys.step false s (.get t so) = some s') (hserve : s'.pc t = .hitServe e r) :
    ∃ n c x, r = some n ∧ ((s.entries e).key, n, c, x) ∈ s'.fetched ∧ c < x ∧ s.now ≤ x :=
  C04.hit_within_lifetime h t e so r hpc hon hs hserve

/- non-vacuity of (1): a two-thread trace in which both accesses hold the lock, and the theorem's
   conclusion is the expected chain write(t0) -> unlock(t0) -> lock(t1) -> read(t1) -/
example :
    let tr : Trace := [⟨0, .acq 7 true⟩, ⟨0, .write 1⟩, ⟨0, .rel 7⟩, ⟨1, .acq 7 false⟩, ⟨1, .read 1⟩, ⟨1, .rel 7⟩]
    Holds tr 1 0 7 true ∧ Holds tr 4 1 7 false ∧ isAccess tr 1 0 1 true ∧ isAccess tr 4 1 1 false := by
  refine ⟨⟨0, by decide, rfl, fun r h1 h2 => by omega⟩, ⟨3, by decide, rfl, fun r h1 h2 => by omega⟩, rfl, rfl⟩

end C20
end Pike
