import Pike.Model.Key
import Pike.Lemmas.LRUSurvive
import Pike.Facts
import Pike.Model.StoreMap
/-
C06 — cache keys isolate method, host and the full request URI.
-/
namespace Pike
namespace C06
open Key LRU

/-- Obligation on the extracted facts: pike's own code uses no `sync.Pool` — a key, and the entry object looked up for it, is not a view of memory that a later request reuses (the models treat them as immutable values). -/
theorem facts_no_pooled_buffers : Facts.syncPoolSites = [] := by decide

/-- Obligation on the extracted layout of `getKey`: it builds METHOD SP HOST SP URI in a freshly
allocated buffer of exactly the right length. -/
theorem layout_ok :
    Facts.keyShape = "ok" ∧ Facts.keyLayout = ["method", "sp", "host", "sp", "uri"]
    ∧ Facts.keySeparator = " " ∧ Facts.keyExtraLen = 2 ∧ Facts.keyFreshBuffer = true
    ∧ Facts.cachedMethods = ["GET", "HEAD"] := ⟨rfl, rfl, rfl, rfl, rfl, rfl⟩

theorem getKey_eq_spec (m h u : Str) : getKey m h u = specKey m h u := by
  obtain ⟨_, hl, hs, he, _, _⟩ := layout_ok
  unfold getKey keyOf
  rw [hl, hs, he]
  have : (["method", "sp", "host", "sp", "uri"].map (seg " ".toList m h u)).flatten = specKey m h u := by
    simp only [List.map_cons, List.map_nil, seg, List.flatten_cons, List.flatten_nil, List.append_nil]; rfl
  rw [this]
  -- the buffer has exactly the length of the key, so nothing is cut off
  refine List.take_of_length_le ?_
  simp only [specKey, List.length_append, List.length_cons]
  omega

/-- `a` is what precedes the first space -/
theorem split_unique (a a' b b' : Str) (ha : ' ' ∉ a) (ha' : ' ' ∉ a')
    (h : a ++ ' ' :: b = a' ++ ' ' :: b') : a = a' ∧ b = b' := by
  have key (a b : Str) (ha : ' ' ∉ a) : (a ++ ' ' :: b).takeWhile (· ≠ ' ') = a := by
    rw [List.takeWhile_append_of_pos (by simpa using fun c hc (e : c = ' ') => ha (e ▸ hc))]
    simp
  obtain rfl : a = a' := by rw [← key a b ha, h, key a' b' ha']
  exact ⟨rfl, List.cons_inj_right _ |>.mp (List.append_cancel_left h)⟩

/-- Obligation on the extracted facts: no eviction callback hands an evicted entry object on to
another key (the entry a request holds stays the entry of the key it was looked up for, also after
that key has left the shard). -/
theorem facts_entries_not_recycled : Facts.lruOnEvictedSites = [] := by decide

/-- FULL STATEMENT (key level).  For methods and hosts that contain no space (what net/http
delivers), two requests get the same cache key only if method, Host and the whole
request-URI (query string included) are all equal. -/
theorem key_injective (m h u m' h' u' : Str)
    (hm : ' ' ∉ m) (hm' : ' ' ∉ m') (hh : ' ' ∉ h) (hh' : ' ' ∉ h')
    (heq : getKey m h u = getKey m' h' u') : m = m' ∧ h = h' ∧ u = u' := by
  rw [getKey_eq_spec, getKey_eq_spec] at heq
  obtain ⟨h1, h2⟩ := split_unique _ _ _ _ hm hm' heq
  exact ⟨h1, split_unique _ _ _ _ hh hh' h2⟩

/-- the no-space hypothesis is necessary (net/http rejects such methods and hosts) -/
theorem space_needed :
    getKey "GET".toList "a b".toList "/".toList = getKey "GET".toList "a".toList "b /".toList := by decide +kernel

/-- GET and HEAD of the same URL are separate entries -/
theorem get_head_distinct (h u : Str) : getKey "GET".toList h u ≠ getKey "HEAD".toList h u := by
  rw [getKey_eq_spec, getKey_eq_spec]
  exact fun heq => by simpa [specKey] using congrArg List.head? heq

/-- FULL STATEMENT (lookup level).  Whatever the hash function (all keys in one shard, any
collisions), after any sequence of lookups, purges and evictions, the entry returned for key
`k` was created for `k` and for no other key. -/
theorem lookup_own_key (hash : Str → Nat) (zones cap : Nat) (ops : List Op) (k : Str) :
    let d := run hash (init zones cap) ops
    let r := lookup d (hash k % d.zones) k
    (r.2.1, k) ∈ r.1.born ∧ ∀ k', (r.2.1, k') ∈ r.1.born → k' = k := by
  intro d r
  have hinv : Inv r.1 := inv_lookup (inv_run hash (inv_init _ _) ops) _ _
  -- after the lookup `k` is resident with the entry returned, and every resident item is in `born`
  obtain ⟨it, hf, he⟩ := find_after_lookup d (hash k % d.zones) k
  obtain ⟨hm, rfl⟩ := find_some hf
  have hmem := he ▸ hinv.born _ it hm
  exact ⟨hmem, fun k' hk' => hinv.uniq _ _ _ hk' hmem⟩

/-- two lookups of one key with no purge/eviction of it in between return the same entry -/
theorem same_entry_while_resident (d : Disp) (i : Nat) (k : Str) :
    let r1 := lookup d i k
    (lookup r1.1 i k).2.1 = r1.2.1 := by
  obtain ⟨it, hf, he⟩ := find_after_lookup d i k
  intro r1
  rw [lookup_hit hf]
  exact he

/-- The persistent side (the map the `store` suite replays every real badger operation on): what is read for a key of
a store is what was last written for exactly that key of exactly that store — writing any other (store, key), however
long a prefix the keys share, does not show. -/
theorem store_keys_isolated (m : StoreMap.M) (k k' : StoreMap.K) (v : Str) (h : k' ≠ k) :
    StoreMap.get (StoreMap.set m k v) k' = StoreMap.get m k' ∧ StoreMap.get (StoreMap.set m k v) k = some v :=
  ⟨by rw [StoreMap.get_set, if_neg h], by rw [StoreMap.get_set, if_pos rfl]⟩

example : StoreMap.get (StoreMap.set (StoreMap.set [] (0, 6) "a".toList) (0, 7) "b".toList) (0, 6) = some "a".toList := by decide +kernel

end C06
end Pike
