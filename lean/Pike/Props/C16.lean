import Pike.Lemmas.Reconfig
import Pike.Spec.Skeleton
/-
C16 — live reconfiguration equals a fresh start and disturbs nothing unchanged.
`Reconfig.update` is main.go's update(); `fresh c = update init c` is a process started with `c`.
-/
namespace Pike
namespace C16
open Reconfig

/-- Obligation on the regenerated statement skeleton of `main.run`: the configuration watcher is running before the
first `update()` starts, so a configuration saved while that first update is still being applied triggers another
update — the running instance ends up with the configuration that was saved last, as a fresh start would. -/
theorem watch_before_first_update : Facts.skel_run = Spec.Skeleton.run := by rfl

/-- Obligation on the regenerated statement skeleton of `main.update`, which `Reconfig.update` and the harness's
`applyLikeMainUpdate` transcribe: read the saved configuration; compress profiles, caches, upstreams (with the status
callback), locations, servers in this order; start what does not listen yet. -/
theorem update_transcribed : Facts.skel_update = Spec.Skeleton.main_update := by rfl

/-- Obligation on the regenerated statement skeletons of the server registry's life cycle (server/server.go):
`servers.Reset` (close what is gone, update what stays, create what is new), `server.Update` (all settings replaced
together under the write lock, the location list by a new slice), `server.Close` (graceful close, THEN the listener
itself) and `convertConfig` (one option per server, the filter regexp per iteration) are what `Reconfig.resetServers`
/ `effective` and the `reconf` suite's expectations were transcribed from. -/
theorem server_lifecycle_transcribed :
    Facts.skel_servers_Reset = Spec.Skeleton.servers_Reset
    ∧ Facts.skel_server_Update = Spec.Skeleton.server_Update
    ∧ Facts.skel_server_Close = Spec.Skeleton.server_Close
    ∧ Facts.skel_convertConfig = Spec.Skeleton.convertConfig := ⟨rfl, rfl, rfl, rfl⟩

/-- Obligation on the extracted facts: reload order, the min-length default in both NewServer
and Update, delete-stale / keep-existing for dispatchers, add-then-remove for upstreams, a single
slice swap for locations, delete-stale / update-in-place for servers. -/
theorem facts_ok :
    Facts.reloadOrder = ["compress.Reset", "cache.ResetDispatchers", "upstream.ResetWithOnStats", "location.Reset", "server.Reset", "server.Start"]
    ∧ Facts.newServerAppliesDefaultMinLength = true ∧ Facts.updateAppliesDefaultMinLength = true
    ∧ Facts.defaultCompressMinLength = 1024
    ∧ Facts.dispatchersResetDeletesAbsent = true ∧ Facts.dispatchersResetKeepsExisting = true
    ∧ Facts.upstreamsResetDeletesAbsent = true ∧ Facts.upstreamsResetStoresBeforeDestroy = true
    ∧ Facts.locationsSetSingleSwap = true
    ∧ Facts.serversResetDeletesAbsent = true ∧ Facts.serversResetUpdatesExisting = true :=
  ⟨rfl, rfl, rfl, rfl, rfl, rfl, rfl, rfl, rfl, rfl, rfl⟩

/-- Obligation on the extracted facts (all non-test files): no `go`/`defer` closure inside a loop
refers to the loop's own iteration variables while the module's language version shares them
between iterations — so the goroutines a reload starts (closing each removed server, destroying
each removed upstream) each act on the element of THEIR iteration, as `Reconfig` models it. -/
theorem facts_closures_own_their_element :
    Facts.loopVarPerIteration = true ∨ Facts.closureLoopCaptures = [] := by decide +kernel

/-- a server gets the same effective options whether it is created or updated in place -/
theorem effective_same (o : SrvOpt) (b : Bool) : effective b o = effective true o := by
  unfold effective
  cases b <;> simp [facts_ok.2.1, facts_ok.2.2.1]

/-! After an update each registry reads back the configuration, whatever it held before: a `reset*` is a fold of stores
over the configured entries, started from the registry cleared of the names that are not configured (`stale`). -/

theorem update_servers (s : St) (c : Cfg) (a : Str) :
    (update s c).servers.get a = (lookup c.servers a).map (effective true) :=
  foldl_read_stale Map.get _ _ (fun m e n => by rw [get_put, effective_same]) _ _ _
    fun h => by rw [get_stale, h]; rfl

theorem update_upstreams (s : St) (c : Cfg) (n : Str) :
    ((update s c).upstreams.get n).map (·.1) = lookup c.upstreams n :=
  (foldl_read_stale (fun (acc : Map (Str × Nat) × Nat) n => (acc.1.get n).map (·.1)) _ id
    (fun acc e n => by rw [get_put]; split <;> rfl) _ _ _ fun h => by rw [get_stale, h]; rfl).trans Option.map_id_apply

theorem update_cacheExists (s : St) (c : Cfg) (n : Str) :
    ((update s c).caches.get n).isSome = (c.caches.map (·.1)).contains n := by
  -- read only WHETHER a name is registered: then a step writes at `e.1`, whether it creates a dispatcher or keeps one
  have key : ((update s c).caches.get n).map (fun _ => ()) = (lookup c.caches n).map fun _ => () := by
    refine foldl_read_stale (fun (acc : Map (Nat × Nat) × Nat) n => (acc.1.get n).map fun _ => ()) _ _
      (fun acc e n => ?_) _ _ _ fun h => by rw [get_stale, h]; rfl
    split
    · next hp =>
      obtain ⟨v, hv⟩ := Option.isSome_iff_exists.mp hp
      split
      · next h => rw [h, hv]; rfl
      · rfl
    · rw [get_put]; split <;> rfl
  rw [← lookup_isSome, ← Option.isSome_map (f := fun _ => ()), key, Option.isSome_map]

/-- `compressSrvs.Reset` deletes nothing (`Facts.compressResetDeletesAbsent = false`), so what was there shows through -/
theorem update_compress (s : St) (c : Cfg) (n : Str) :
    (update s c).compress.get n = (lookup c.compresses n).or (s.compress.get n) :=
  (foldl_read Map.get _ id (fun m e n => get_put m e.1 e.2 n) c.compresses s.compress n).trans
    (by rw [Option.map_id_apply])

/-- PARTIAL (see `update_eq_fresh_stmt`).  After ANY configuration history `s`, applying `c` gives
the same observable routing, cache binding, upstream set, server settings (incl. the min-length
default) as a process freshly started with `c`; compression levels are the same for every profile
named in `c` and for every name whose registration in `s` is the start-up one.  What is missing:
a profile that an earlier configuration defined and `c` no longer names keeps its old levels
(compressSrvs.Reset never deletes) — finding D9. -/
theorem update_eq_fresh_partial (s : St) (c : Cfg) :
    (obs (update s c)).cacheExists = (obs (fresh c)).cacheExists
    ∧ (obs (update s c)).upstream = (obs (fresh c)).upstream
    ∧ (obs (update s c)).locations = (obs (fresh c)).locations
    ∧ (obs (update s c)).server = (obs (fresh c)).server
    ∧ ∀ n, ((c.compresses.map (·.1)).contains n = true ∨ s.compress.get n = init.compress.get n) →
        (obs (update s c)).levels n = (obs (fresh c)).levels n := by
  refine ⟨funext fun n => ?_, funext fun n => ?_, Eq.refl c.locations, funext fun a => ?_, fun n hn => ?_⟩
  · simp only [obs, fresh, update_cacheExists]
  · simp only [obs, fresh, update_upstreams]
  · simp only [obs, fresh, update_servers]
  · simp only [obs, fresh, update_compress]
    rcases hn with hn | hn
    · obtain ⟨v, hv⟩ := Option.isSome_iff_exists.mp ((lookup_isSome _ n).trans hn)
      rw [hv, Option.some_or, Option.some_or]
    · rw [hn]

/-- the full statement; FALSE today for compression levels (next theorem) -/
def update_eq_fresh_stmt : Prop := ∀ s c, (∃ cs : List Cfg, s = cs.foldl update init) → (obs (update s c)).levels = (obs (fresh c)).levels

/-- witness: a configuration overrides the built-in bestCompression profile (gzip 1), the next
one drops the override: the running instance keeps gzip 1, a fresh one has gzip 9 -/
theorem compress_override_persists :
    let c1 : Cfg := ⟨[(bestName, (1, 2))], [], [], [], []⟩
    let c2 : Cfg := ⟨[], [], [], [], []⟩
    (obs (update (update init c1) c2)).levels bestName = (1, 2) ∧ (obs (fresh c2)).levels bestName = (9, -1) := by
  decide +kernel

/-- FULL STATEMENT (nothing unchanged is disturbed, per micro-step).  Deleting stale keys never
touches a key the new configuration names, and a store replaces a value atomically: a name that is
registered before the update and named by the new configuration resolves in EVERY intermediate
state of the update. -/
theorem unchanged_resolves_throughout {V : Type} (m : Map V) (k : Str) (hk : (m.get k).isSome = true) :
    (∀ d, d ≠ k → ((m.del d).get k).isSome = true) ∧ (∀ a v, ((m.put a v).get k).isSome = true) := by
  refine ⟨fun d hd => ?_, fun a v => ?_⟩
  · rw [get_del, if_neg (Ne.symm hd), hk]
  · rw [get_put]; split <;> simp [hk]

/-- a dispatcher whose name survives is the same object (identity, entries, original options) -/
theorem surviving_cache_identity (s : St) (c : Cfg) (n : Str)
    (hs : (s.caches.get n).isSome = true) (hc : (c.caches.map (·.1)).contains n = true) :
    (update s c).caches.get n = s.caches.get n := by
  -- `n` is kept by the deleting phase, and no step of the creating phase touches a registered name
  refine List.foldlRecOn c.caches _ (motive := fun (acc : Map (Nat × Nat) × Nat) => acc.1.get n = s.caches.get n) ?_
    fun acc ih e _ => ?_
  · rw [get_stale, if_pos hc]
  · split
    · exact ih
    · next he =>
      rw [get_put, if_neg, ih]
      rintro rfl
      exact he (ih ▸ hs)

/-- a removed server is gone (its listener is closed by the caller of MapDelete), a removed cache
and upstream likewise -/
theorem removed_is_gone (s : St) (c : Cfg) (a : Str) :
    ((c.servers.map (·.1)).contains a = false → (update s c).servers.get a = none)
    ∧ ((c.caches.map (·.1)).contains a = false → (update s c).caches.get a = none)
    ∧ ((c.upstreams.map (·.1)).contains a = false → ((update s c).upstreams.get a).map (·.1) = none) := by
  refine ⟨fun h => ?_, fun h => ?_, fun h => ?_⟩
  · rw [update_servers, lookup_eq_none h]; rfl
  · rw [← Option.not_isSome_iff_eq_none, update_cacheExists, h]; simp
  · rw [update_upstreams, lookup_eq_none h]

/- non-vacuity -/
example :
    let c1 : Cfg := ⟨[("zip".toList, (6, 5))], [("c1".toList, 100)], [("u1".toList, "rr".toList)], ["l1".toList],
      [(":80".toList, ⟨["l1".toList], "c1".toList, "zip".toList, 0, []⟩)]⟩
    let c2 : Cfg := { c1 with caches := [("c1".toList, 999), ("c2".toList, 5)] }
    (obs (update (fresh c1) c2)).server ":80".toList = some ⟨["l1".toList], "c1".toList, "zip".toList, 1024, []⟩
    ∧ (update (fresh c1) c2).caches.get "c1".toList = some (100, 0) := by decide +kernel

end C16
end Pike
