import Pike.Lemmas.Codec
import Pike.Facts
import Pike.Spec.Skeleton
/-
C09 — the persistence format round-trips exactly and rejects garbage safely.
`c : HCodec H` bundles the library behaviour the format relies on: the JSON encoding of the
header (`enc`/`dec`) and `regexp.Compile` on the filter source (`reOK`); what is assumed of it
is stated per theorem (`RespWF.hdrRT`, `RespWF.filterOK`).
-/
namespace Pike
namespace C09
open Codec

variable {H : Type}

/-- Obligation on the regenerated statement skeletons of the record encoders/decoders (field order, 32/64-bit big-endian length and time fields, `Next(size)` slicing): they are what `Codec.encodeEntry/decodeEntry/encodeResp/decodeResp` transcribe. -/
theorem skeleton_transcribed :
    Facts.skel_HTTPResponse_Bytes = Spec.Skeleton.HTTPResponse_Bytes
    ∧ Facts.skel_HTTPResponse_FromBytes = Spec.Skeleton.HTTPResponse_FromBytes
    ∧ Facts.skel_httpCache_Bytes = Spec.Skeleton.httpCache_Bytes
    ∧ Facts.skel_httpCache_FromBytes = Spec.Skeleton.httpCache_FromBytes
    ∧ Facts.skel_readUint32ToInt = Spec.Skeleton.readUint32ToInt
    ∧ Facts.skel_readUint64ToInt64 = Spec.Skeleton.readUint64ToInt64
    ∧ Facts.skel_uint32ToBytes = Spec.Skeleton.uint32ToBytes
    ∧ Facts.skel_uint64ToBytes = Spec.Skeleton.uint64ToBytes :=
  ⟨rfl, rfl, rfl, rfl, rfl, rfl, rfl, rfl⟩

/-- FULL STATEMENT (round trip).  For every entry whose field sizes fit the 32-bit length
prefixes, whose timestamps are int64, whose header survives the JSON round trip and whose filter
source compiles: decoding the encoding gives the entry back — every field, every body variant
of any size including empty — except that an absent response (hit-for-pass marker) comes back
as the empty response, which no lookup reads. -/
theorem decode_encode (c : HCodec H) (e : Entry H) (wf : EntryWF c e) :
    decodeEntry c (encodeEntry c e) = some (normalize c e) :=
  decodeEntry_encodeEntry c e wf

/-- a second round trip changes nothing -/
theorem roundtrip_stable (c : HCodec H) (e : Entry H) (wf : EntryWF c (normalize c e)) :
    decodeEntry c (encodeEntry c (normalize c e)) = some (normalize c e) := by
  simpa [normalize] using decodeEntry_encodeEntry c (normalize c e) wf

/-- FULL STATEMENT (truncation).  Every strict prefix of every record is reported as an
error — for all entries and all cut points. -/
theorem truncated_is_error (c : HCodec H) (e : Entry H)
    (hfit : ∀ r, e.resp = some r → (encodeResp c r).length < 4294967296)
    (k : Nat) (hk : k < (encodeEntry c e).length) :
    decodeEntry c ((encodeEntry c e).take k) = none := by
  obtain ⟨rb, hrb, henc⟩ : ∃ rb : Str, rb.length < 4294967296 ∧
      encodeEntry c e = u32 e.status ++ (u32 rb.length ++ (rb ++ (u64 e.createdAt ++ u64 e.expiredAt))) := by
    unfold encodeEntry
    cases hr : e.resp with
    | none => exact ⟨[], by decide, by simp⟩
    | some r => exact ⟨_, hfit r hr, by simp⟩
  cases hd : decodeEntry c ((encodeEntry c e).take k) with
  | none => rfl
  | some e' =>
    -- a prefix that decodes has read a status, a size `n`, and at least `n + 16` bytes after them
    obtain ⟨st, n, r0, r1, h0, h1, hlen⟩ := decodeEntry_some_length hd
    obtain ⟨cut, hcut⟩ := List.take_prefix k (encodeEntry c e)
    -- with the cut-off bytes put back both reads read the same, now from the whole record: `n` is the real size
    have h0' := readU32_append h0 cut
    rw [hcut, henc, readU32_u32_mod] at h0'
    have hr0 := (Prod.mk.inj (Option.some.inj h0')).2
    have h1' := readU32_append h1 cut
    rw [← hr0, readU32_u32 hrb] at h1'
    obtain ⟨hn, hr1⟩ := Prod.mk.inj (Option.some.inj h1')
    have l1 := congrArg List.length hr1
    have l2 := congrArg List.length hcut
    simp only [henc, List.length_append, List.length_take, u32_length, u64_length] at l1 l2 hk
    omega

/-- the 2^32 bound is forced by the format: a size that does not fit is stored modulo 2^32 -/
theorem size_wraps : u32 4294967296 = u32 0 ∧ u32 4294967297 = u32 1 := by decide +kernel

/-- Decoding is total (it is a Lean function: no panic, no hang, for ALL byte strings) and
never manufactures bytes: each variable-length field of a decoded response is a slice of the
input, so the result is never larger than the input. -/
theorem decode_bounded (c : HCodec H) (data : Str) (r : Resp H) (h : decodeResp c data = some r) :
    r.compressSrv.length + r.filter.length + r.gzip.length + r.br.length + r.raw.length ≤ data.length := by
  revert h
  fun_cases decodeResp c data <;> intro h <;> cases h
  · simp [zeroResp]
  · grind [→ readField_length, → readU32_length]

/- non-vacuity: a concrete entry (identity header codec) meets the hypotheses and round-trips;
   a concrete garbage record is rejected -/
def idc : HCodec Str := ⟨id, some, [], fun _ => true⟩
example :
    let e : Entry Str := ⟨3, some ⟨"bestCompression".toList, 1024, "text|json".toList, "{}".toList, 200, "gz".toList, [], []⟩, 1700000000, 1700000060⟩
    decodeEntry idc (encodeEntry idc e) = some e := by decide +kernel
example : decodeEntry idc [Char.ofNat 0, Char.ofNat 0, Char.ofNat 0, Char.ofNat 3] = none := by decide +kernel

end C09
end Pike
