import Pike.Lemmas.LRU
import Pike.Lemmas.LRURefine
import Pike.Lemmas.LRUSurvive
import Pike.Model.Sys
import Pike.Facts
/-
C11 — resident cache entries never exceed the configured size.
`Facts.dispatcherSizes` is the size computation of `NewDispatcher`, translated from the Go
source on every run; `LRU` is the model of the sharded groupcache LRU.
-/
namespace Pike
namespace C11
open LRU

/-- Obligation on the extracted facts: pike's own code uses no `sync.Pool` — the key under which an entry sits in a shard's table is not a view of a buffer that a later request rewrites (a table whose keys change under it no longer finds what the recency list evicts). -/
theorem facts_no_pooled_buffers : Facts.syncPoolSites = [] := by decide

/-- What the translated size computation yields for S ≥ 1: a zone count `z` (8 or 128, cut down to S)
and the per-zone limit ⌊S / z⌋. -/
theorem sizes_eq (S : Int) (h : 1 ≤ S) : ∃ z, 1 ≤ z ∧ z ≤ S ∧ Facts.dispatcherSizes S = (z, S / z) := by
  simp only [Facts.dispatcherSizes]
  rw [if_neg (Int.not_le.mpr h)]
  split <;> split
  · exact ⟨S, h, Int.le_refl S, rfl⟩
  · next h8 => exact ⟨8, by decide, Int.not_lt.mp h8, rfl⟩
  · exact ⟨S, h, Int.le_refl S, rfl⟩
  · next h128 => exact ⟨128, by decide, Int.not_lt.mp h128, rfl⟩

/-- Obligation on the translated size computation: for every configured size S ≥ 1 the zone
count is ≥ 1, the per-zone limit is ≥ 1 (0 would mean "unlimited"), and zones × limit ≤ S. -/
theorem sizes_ok (S : Int) (h : 1 ≤ S) :
    1 ≤ (Facts.dispatcherSizes S).1 ∧ 1 ≤ (Facts.dispatcherSizes S).2
    ∧ (Facts.dispatcherSizes S).1 * (Facts.dispatcherSizes S).2 ≤ S := by
  obtain ⟨z, h1, h2, hs⟩ := sizes_eq S h
  rw [hs]
  exact ⟨h1, Int.le_ediv_of_mul_le (by omega) (by omega), Int.mul_ediv_self_le (by omega)⟩

/-- … and the limit is not smaller than the configuration asks for either: the shards together hold more than
S − zones keys (each shard's limit is the configured size divided by the number of shards, rounded down — not a
fraction of it).  A shard limit that is too small evicts entries whose fetch is still in flight long before the cache is
full, which is what C01's proviso "unless the entry is evicted during the fetch" must not be stretched to cover. -/
theorem capacity_not_wasted (S : Int) (h : 1 ≤ S) :
    S < (Facts.dispatcherSizes S).1 * ((Facts.dispatcherSizes S).2 + 1) := by
  obtain ⟨z, h1, h2, hs⟩ := sizes_eq S h
  rw [hs, Int.mul_add, Int.mul_one]
  exact Int.lt_mul_ediv_self_add (by omega)

/-- the dispatcher `NewDispatcher` builds for configured size `S` -/
abbrev mk (S : Int) : Disp := ofSize S

/-- FULL STATEMENT.  For every configured size S ≥ 1, every hash function, and every sequence
of lookups and purges (of any length, over any key population), the number of keys held in
memory never exceeds S. -/
theorem resident_le_size (S : Int) (hS : 1 ≤ S) (hash : Str → Nat) (ops : List Op) :
    (resident (run hash (mk S) ops) : Int) ≤ S := by
  obtain ⟨hz, hc, hm⟩ := sizes_ok S hS
  refine Int.le_trans (Int.ofNat_le.mpr (resident_run_le hash _ (by omega) ops)) ?_
  rw [Int.natCast_mul, Int.toNat_of_nonneg (by omega), Int.toNat_of_nonneg (by omega)]
  exact hm

/-- The other half of "least recently used": a key that has just been used is NOT the one dropped.  After a
lookup of `k` (whatever happened before), any sequence of lookups and purges of OTHER keys that is shorter than the
per-shard limit leaves `k` resident with the very entry that lookup returned — however the keys hash.  (This is also
the quantitative content of C01's proviso "as long as the key's entry is not evicted during the fetch": an entry
whose fetch is in flight is safe from eviction for the next `cap - 1` other requests of its shard.) -/
theorem recently_used_survives (hash : Str → Nat) (S : Int) (hist : List Op) (k : Str) (ops : List Op)
    (hops : ∀ op ∈ ops, op.mentions k = false) :
    let d0 := run hash (mk S) hist
    let i := hash k % d0.zones
    let r := lookup d0 i k
    ops.length < d0.cap →
      ∃ it, find ((run hash r.1 ops).shards i) k = some it ∧ it.eid = r.2.1 := by
  intro d0 i r hlen
  have h0 : rk (r.1.shards (hash k % r.1.zones)) k = some (0, r.2.1) := by
    rw [(lookup_params ..).1]; exact rk_after_lookup d0 i k
  obtain ⟨q, _, hr⟩ := run_keeps hash (inv_lookup (inv_run hash (inv_init _ _) hist) i k) k ops hops h0
    (.inr (by rw [(lookup_params ..).2, Nat.zero_add]; exact hlen))
  rw [(lookup_params ..).1] at hr
  exact rk_find hr

/-- non-vacuity: a cache of 2048 entries (16 per shard) — fifteen lookups of other keys that all land in the shard of
`k` leave `k`'s entry where it was -/
example : (Facts.dispatcherSizes 2048).2 = 16 := by decide +kernel

/-- When a lookup has to make room, the key it drops is the least recently used key of that
shard: its last access precedes the last access of every key that stays. -/
theorem victim_is_lru (hash : Str → Nat) (S : Int) (ops : List Op) (k : Str) (v : Item) :
    let d := run hash (mk S) ops
    let i := hash k % d.zones
    find (d.shards i) k = none →
    victim d.cap (d.shards i) ⟨k, d.next, d.clock⟩ = some v →
    ∀ x ∈ (lookup d i k).1.shards i, v.stamp < x.stamp := by
  intro d i hf hv
  rw [lookup_miss hf]
  simp only [updF_same]
  exact victim_is_oldest ((inv_run hash (inv_init _ _) ops).shard i) hv

/-- a key that is not resident (never seen, dropped or purged) is simply created again on its
next use: the lookup returns a brand-new entry -/
theorem dropped_is_recreated (d : Disp) (i : Nat) (k : Str) (h : find (d.shards i) k = none) :
    (lookup d i k).2 = (d.next, true) := by
  rw [lookup_miss h]

/-- and a resident key keeps its entry -/
theorem resident_is_reused (d : Disp) (i : Nat) (k : Str) (it : Item) (h : find (d.shards i) k = some it) :
    (lookup d i k).2 = (it.eid, false) := by
  rw [lookup_hit h]

/- non-vacuity -/
example : Facts.dispatcherSizes 1 = (1, 1) := by decide +kernel
example : Facts.dispatcherSizes 7 = (7, 1) := by decide +kernel
example : Facts.dispatcherSizes 100 = (8, 12) := by decide +kernel
example : Facts.dispatcherSizes 5000 = (128, 39) := by decide +kernel
example : resident (run (fun _ => 0) (mk 1) [.get "a".toList, .get "b".toList, .get "c".toList]) = 1 := by decide +kernel

/-- the pinned tree's defect, as a witness about the variant computation (no zone clamp):
per-zone limit 0, i.e. unlimited -/
theorem unclamped_variant_violates :
    let sizes (S : Int) : Int × Int := (if S < 1024 then 8 else 128, S / (if S < 1024 then 8 else 128))
    (sizes 7).2 = 0
    ∧ resident (run (fun _ => 0) (init 8 0) [.get "a".toList, .get "b".toList, .get "c".toList]) = 3 := by
  decide +kernel

/-- Obligation on the extracted facts: no eviction callback is installed on the shards' LRU, so an
eviction does nothing but drop the least recently used key (`LRU.insert`): the entry object is
neither re-inserted nor handed to another key. -/
theorem facts_eviction_only_drops : Facts.lruOnEvictedSites = [] := by decide

/-- simulation relation between the sharded LRU and the shard map of the concurrent model -/
def Sim (hash : Str → Nat) (enc : Str → Key) (d : Disp) (s : Sys.State) : Prop :=
  (∀ k, s.shard (enc k) = (absMap hash d k).map Eid.mk) ∧ s.next = d.next

/-- the creating branch of `Sys.step (.lookup t)` -/
def created (s0 : Sys.State) (t : Tid) (k : Key) : Sys.State :=
  { s0 with next := s0.next + 1, entries := Sys.upd s0.entries ⟨s0.next⟩ { key := k },
            shard := Sys.upd s0.shard k (some ⟨s0.next⟩), pc := Sys.upd s0.pc t (.looked ⟨s0.next⟩) }

/-- REFINEMENT.  Whatever the dispatcher does on a lookup — reuse the resident entry, or create a
new one and evict the shard's least recently used key — the concurrent model `Sys` can do with
`drop` (for the victim, if any) followed by `lookup`; the thread ends up holding the same entry id
and the two shard maps stay related.  So every theorem proved over `Sys` for arbitrary `drop`s
(C01, C02, C04, C08, C10, C18, C20) covers the real eviction order. -/
theorem lookup_simulated {reread : Bool} {hash : Str → Nat} {enc : Str → Key} (henc : ∀ a b, enc a = enc b → a = b)
    {d : Disp} {s : Sys.State} (hi : Inv d) (hp : Placed hash d) (hs : Sim hash enc d s)
    (t : Tid) (k : Str) (hpc : s.pc t = .arrived (enc k)) :
    ∃ s1 s2, (s1 = s ∨ ∃ v, Sys.step reread s (.drop (enc v)) = some s1)
      ∧ Sys.step reread s1 (.lookup t) = some s2
      ∧ s2.pc t = .looked ⟨(lookup d (hash k % d.zones) k).2.1⟩
      ∧ Sim hash enc (lookup d (hash k % d.zones) k).1 s2 := by
  have henc' (a b) : enc a = enc b ↔ a = b := ⟨henc a b, congrArg enc⟩
  cases hf : find (d.shards (hash k % d.zones)) k with
  | some it =>
    have hsk : s.shard (enc k) = some ⟨it.eid⟩ := by simp [hs.1, absMap, hf]
    refine ⟨s, { s with pc := Sys.upd s.pc t (.looked ⟨it.eid⟩) }, .inl rfl, ?_, ?_, ?_⟩
    · unfold Sys.step; simp only [hpc, hsk]
    · simp [lookup_hit hf, Sys.upd]
    · rw [Sim, absMap_lookup_hit hf, lookup_hit hf]; exact hs
  | none =>
    have hsk : s.shard (enc k) = none := by simp [hs.1, absMap, hf]
    -- the model first drops the victim, if there is one
    obtain ⟨s1, hdrop, hsh, hpc1, hnext1⟩ : ∃ s1, (s1 = s ∨ ∃ v, Sys.step reread s (.drop (enc v)) = some s1)
        ∧ (∀ k', s1.shard (enc k') =
            if k' ∈ (victim d.cap (d.shards (hash k % d.zones)) ⟨k, d.next, d.clock⟩).toList.map (·.key) then none
            else s.shard (enc k')) ∧ s1.pc = s.pc ∧ s1.next = s.next := by
      cases victim d.cap (d.shards (hash k % d.zones)) ⟨k, d.next, d.clock⟩ with
      | none => exact ⟨s, .inl rfl, by simp, rfl, rfl⟩
      | some v =>
        exact ⟨{ s with shard := Sys.upd s.shard (enc v.key) none }, .inr ⟨v.key, rfl⟩, by simp [Sys.upd, henc'], rfl, rfl⟩
    refine ⟨s1, created s1 t (enc k), hdrop, ?_, ?_, ?_, ?_⟩
    · have hsk1 : s1.shard (enc k) = none := by rw [hsh, hsk, ite_self]
      have hpc' : s1.pc t = .arrived (enc k) := hpc1 ▸ hpc
      unfold Sys.step; simp only [hpc', hsk1]; rfl
    · simp [created, lookup_miss hf, Sys.upd, hnext1, hs.2]
    · intro k'
      show (if enc k' = enc k then some ⟨s1.next⟩ else s1.shard (enc k')) = _
      simp only [absMap_lookup_miss hi hp hf, henc', hsh, hs.1, hnext1, hs.2, apply_ite (Option.map Eid.mk)]
      rfl
    · simp [created, lookup_miss hf, hnext1, hs.2]

/-- ... and a purge of the dispatcher is the model's `purge` on the shard map -/
theorem purge_simulated {reread : Bool} {hash : Str → Nat} {enc : Str → Key} (henc : ∀ a b, enc a = enc b → a = b)
    {d : Disp} {s : Sys.State} (hs : Sim hash enc d s) (k : Str) (del : Bool) :
    ∃ s', Sys.step reread s (.purge (enc k) del) = some s' ∧ Sim hash enc (remove d (hash k % d.zones) k) s' := by
  have henc' (a b) : enc a = enc b ↔ a = b := ⟨henc a b, congrArg enc⟩
  refine ⟨_, rfl, fun k' => ?_, hs.2⟩
  simp only [Sys.upd, henc', hs.1, absMap_remove, apply_ite (Option.map Eid.mk)]
  rfl

/-- the hypotheses of the refinement hold in every reachable dispatcher state -/
theorem refinement_hyps_reachable (hash : Str → Nat) (S : Int) (ops : List Op) :
    Inv (run hash (ofSize S) ops) ∧ Placed hash (run hash (ofSize S) ops) :=
  ⟨inv_run hash (inv_init _ _) ops, placed_run hash (placed_init hash _ _) ops⟩

end C11
end Pike
