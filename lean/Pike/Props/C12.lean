import Pike.Lemmas.LZ4
import Pike.Facts
/-
C12 — compression codecs are exact inverses for every input and level (PARTIAL BY NATURE).
The codecs are libraries; what is pike's own is proved here: level handling, finalisation before
the bytes are read, and the LZ4 wrapper's destination policy against the block format.  The
round trips of gzip/br/zstd/snappy themselves are the `Resp.CodecsOK` assumption and are
exercised (not proved) by the `codecs` suite.
-/
namespace Pike
namespace C12
open LZ4

/-- Obligation on the extracted facts: pike's own code uses no `sync.Pool` — what an encoder or decoder returned stays what it was after later calls (the models treat them as immutable values). -/
theorem facts_no_pooled_buffers : Facts.syncPoolSites = [] := by decide +kernel

/-- FULL STATEMENT (levels).  For EVERY integer level the level handed to the gzip library is the
default (-1) or in 1..9 — a level the library accepts — and a configured level in 1..9 is used as
is; likewise 1..11 (default 6) for brotli.  Out-of-range levels fall back to the defaults. -/
theorem levels_valid (l : Int) :
    (Facts.gzipLevel l = -1 ∨ (1 ≤ Facts.gzipLevel l ∧ Facts.gzipLevel l ≤ 9))
    ∧ (1 ≤ l → l ≤ 9 → Facts.gzipLevel l = l)
    ∧ (1 ≤ Facts.brotliLevel l ∧ Facts.brotliLevel l ≤ 11)
    ∧ (1 ≤ l → l ≤ 11 → Facts.brotliLevel l = l)
    ∧ ((l ≤ 0 ∨ 9 < l) → Facts.gzipLevel l = -1) ∧ ((l ≤ 0 ∨ 11 < l) → Facts.brotliLevel l = 6) := by
  grind [Facts.gzipLevel, Facts.brotliLevel]

/-- Obligation on the extracted shape: the writer's `Close` is deferred inside the encoder
function, which itself never reads the buffer; the caller reads it after that function returned
(i.e. after the deferred `Close` flushed the stream): the bytes returned are the complete stream. -/
theorem finalised_before_read :
    Facts.gzipLevel_closeDeferred = true ∧ Facts.gzipLevel_readsBufferBeforeClose = false ∧ Facts.gzipCallerReadsAfter = true
    ∧ Facts.brotliLevel_closeDeferred = true ∧ Facts.brotliLevel_readsBufferBeforeClose = false ∧ Facts.brotliCallerReadsAfter = true
    ∧ Facts.gzipLevel_shape = "ok" ∧ Facts.brotliLevel_shape = "ok" := by decide +kernel

/-- FULL STATEMENT (LZ4 format).  Every LZ4 block the format decoder accepts decodes to at most
255 times its own length — whatever the block. -/
theorem lz4_out_le_255x (block d : Str) (hb : IsBytes block) (h : decodeBlock block = some d) :
    d.length ≤ 255 * block.length := by
  simpa using decodeSeqs_bound _ block [] d hb h

/-- Obligation on the extracted policy of `doLZ4Decode`: it starts at 10× and grows to the
format's maximum ratio. -/
theorem lz4_policy : Facts.lz4InitialFactor = 10 ∧ Facts.lz4MaxRatio = 255 ∧ Facts.lz4Grows = true := by decide +kernel

theorem go_complete (block d : Str) (hd : decodeBlock block = some d) (maxSize : Nat)
    (hlen : d.length ≤ maxSize) (fuel size : Nat)
    (hfuel : size * 4 ^ (fuel - 1) ≥ maxSize) (hf : 0 < fuel) :
    wrapperGo false maxSize block fuel size = some d := by
  induction fuel generalizing size with
  | zero => omega
  | succ fuel ih =>
    by_cases hfit : d.length ≤ size
    · simp only [wrapperGo, lib, Bool.false_eq_true, false_and, if_false, hd, hfit, if_true]
    · -- too short, so `size < maxSize`: there is fuel left, and four times the size still gets there in time
      simp only [wrapperGo, lib, Bool.false_eq_true, false_and, if_false, hd, hfit,
        if_neg (show ¬size ≥ maxSize by omega)]
      cases fuel with
      | zero => simp at hfuel; omega
      | succ f =>
        refine ih _ ?_ (by omega)
        rw [Nat.add_sub_cancel] at hfuel ⊢
        rw [← Nat.mul_min_mul_right]
        exact Nat.le_min.2 ⟨by rwa [Nat.mul_assoc, ← Nat.pow_succ'], Nat.le_mul_of_pos_right _ (Nat.pow_pos (by decide))⟩

/-- FULL STATEMENT (wrapper).  For every block the format decoder accepts, pike's wrapper
(destination 10×, growing ×4 up to 255×, library without the empty-block quirk) returns exactly
the decoded bytes — regardless of compression ratio. -/
theorem lz4_wrapper_complete (block d : Str) (hb : IsBytes block) (hd : decodeBlock block = some d) :
    wrapper false 10 255 block = some d :=
  -- eight tries: 10 · 4^7 ≥ 255
  go_complete block d hd _ (lz4_out_le_255x block d hb hd) 8 _ (by omega) (by omega)

/-- the empty payload: the format accepts the one-byte block `00`; the pinned library does not
(finding D13), which is the only effect of the `quirk` switch -/
theorem lz4_empty_block :
    decodeBlock [Char.ofNat 0] = some [] ∧ wrapper false 10 255 [Char.ofNat 0] = some []
    ∧ wrapper true 10 255 [Char.ofNat 0] = none := by decide +kernel

/-- the pinned tree's defect as a witness: with a fixed 10× destination a valid block that
expands more (here: 40 bytes from 3) is rejected -/
theorem fixed10x_variant_violates :
    let block : Str := [Char.ofNat 0x1f, 'a', Char.ofNat 1, Char.ofNat 0, Char.ofNat 60]
    (decodeBlock block).map List.length = some 80 ∧ wrapperGo false (10 * block.length) block 1 (10 * block.length) = none := by
  decide +kernel

/- non-vacuity: a literal-only block and a run-length block -/
example : decodeBlock [Char.ofNat 0x30, 'a', 'b', 'c'] = some ['a', 'b', 'c'] := by decide +kernel
example : decodeBlock [Char.ofNat 0x11, 'a', Char.ofNat 2, Char.ofNat 0] = none := by decide +kernel   -- offset beyond the output

end C12
end Pike
