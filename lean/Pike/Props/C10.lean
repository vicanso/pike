import Pike.Props.C02
import Pike.Facts
import Pike.Spec.Skeleton
/-
C10 — store failures degrade to memory-only caching, never to client errors.
In `Sys` every store call carries its outcome as an event parameter (`get t so`, `saved t ok`,
`purge k deleted`), so "reachable" already quantifies over every sequence of per-call store
faults: errors, missing keys, arbitrary (garbled) records, lost writes and deletes.
-/
namespace Pike
namespace C10
open Sys Entry

/-- Obligation on the regenerated statement skeletons of the three store back ends (store/redis.go, mongo.go,
badger.go): Get, Set and Delete of each address a record by THE SAME function of the key (redis: prefix + key in all
three; mongo: `Key = string(key)` in all three; badger: the key itself, Delete removing that one key), a miss is reported
as `ErrNotFound`, and a value is copied out before the transaction ends.  This is what lets `StoreMap` / `Sys.store`
treat a store as one partial map; the `store` suite checks it against real badger stores, redis and mongo cannot be
run in the sandbox, so for them this obligation is the tie. -/
theorem store_backends_transcribed :
    Facts.skel_redisStore_getKey = Spec.Skeleton.redisStore_getKey
    ∧ Facts.skel_redisStore_Get = Spec.Skeleton.redisStore_Get
    ∧ Facts.skel_redisStore_Set = Spec.Skeleton.redisStore_Set
    ∧ Facts.skel_redisStore_Delete = Spec.Skeleton.redisStore_Delete
    ∧ Facts.skel_mongoStore_Get = Spec.Skeleton.mongoStore_Get
    ∧ Facts.skel_mongoStore_Set = Spec.Skeleton.mongoStore_Set
    ∧ Facts.skel_mongoStore_Delete = Spec.Skeleton.mongoStore_Delete
    ∧ Facts.skel_badgerStore_Get = Spec.Skeleton.badgerStore_Get
    ∧ Facts.skel_badgerStore_Set = Spec.Skeleton.badgerStore_Set
    ∧ Facts.skel_badgerStore_Delete = Spec.Skeleton.badgerStore_Delete :=
  ⟨rfl, rfl, rfl, rfl, rfl, rfl, rfl, rfl, rfl, rfl⟩

/-- Obligation on the extracted facts (store/*.go): every store constructor returns the interface type
`Store`, so a store that fails to open yields a nil interface and `NewDispatcher` falls back to
memory-only caching (a concrete pointer result would make the failed open a non-nil interface
holding a nil pointer, and the first lookup would dereference it under the entry mutex). -/
theorem facts_store_constructors_return_interface :
    Facts.storeConstructorResults.all (fun s => s = "Store") = true ∧ Facts.storeConstructorResults ≠ [] := by decide +kernel

/-- FULL STATEMENT (protocol).  Whatever the store does, every reachable state satisfies the
protocol invariant; hence single flight (C01), progress, release of all waiters on every
outcome and no stuck key (C02) hold under every fault sequence.  (`Reachable` puts no
constraint on `so`, `ok`, `deleted`.) -/
theorem inv_under_faults {s : State} (h : Reachable Facts.waiterRereadsEntry s) : Inv s := C01.reach_inv h

/-- waiters are released before the store is written (`saved` is enabled only once the detached
list is empty), and a failing write still unlocks the entry and changes nothing else -/
theorem save_failure_harmless (s : State) (t : Tid) (e : Eid) (o : Outcome)
    (hpc : s.pc t = .draining e o) (hq : s.queue e = []) :
    ∃ s', step Facts.waiterRereadsEntry s (.saved t false) = some s' ∧ s'.lock e = none ∧ s'.entries = s.entries
      ∧ s'.store = s.store ∧ s'.pc t = .done (.fetched o) := by
  rw [C01.facts_handover.1]
  simp only [step, hpc, hq, ne_eq, not_true_eq_false, if_false, Bool.false_eq_true, and_false]
  exact ⟨_, rfl, by simp, rfl, rfl, by simp⟩

theorem saved_needs_empty_queue {s s' : State} (t : Tid) (e : Eid) (o : Outcome) (ok : Bool)
    (hpc : s.pc t = .draining e o) (hs : step Facts.waiterRereadsEntry s (.saved t ok) = some s') :
    s.queue e = [] :=
  saved_queue_empty hpc (C01.step_Step hs)

/-- FULL STATEMENT (bad records).  A record that does not decode (`error`) or is not a
well-formed hit / hit-for-pass marker — wrong status word, hit without a response, no expiry —
leaves the entry exactly as a not-found answer does: it is a miss. -/
theorem bad_record_is_miss (e : Entry) (rec : Rec) (hbad : Rec.valid rec = false) :
    Entry.load e (.record rec) = Entry.load e .notFound ∧ Entry.load e .error = Entry.load e .notFound
    ∧ Entry.load e .notFound = e := by
  unfold Entry.load
  simp [hbad]

/-- responses cached in memory keep being served: an entry that is not `unknown` never consults
the store -/
theorem memory_hits_survive (t : Tid) (now : Int) (so so' : Load) (e : Entry) (h : e.status ≠ .unknown) :
    Entry.get t now so e = Entry.get t now so' e := by
  rw [Entry.get_known t now so h, Entry.get_known t now so' h]

/-- FULL STATEMENT (no immortal entry, no permanent error).  In every reachable state an entry
that answers from cache or passes has a non-zero expiry (so it lapses), and a hit has a response. -/
theorem no_immortal {s : State} (h : Reachable Facts.waiterRereadsEntry s) (e : Eid) :
    (((s.entries e).status = .hit ∨ (s.entries e).status = .hitForPass) → (s.entries e).expiredAt ≠ 0)
    ∧ ((s.entries e).status = .hit → (s.entries e).resp ≠ none) :=
  have hok := (C01.reach_inv h).entry_ok e
  ⟨hok.exp_nonzero, hok.hit_resp⟩

/-- The defect of the pinned tree, as a witness about the variant that takes a restored record
without validating it: the record `00 00 00 03` (status hit, nothing else) became an immortal hit
with no response; status `fetching` parked the request forever. -/
def loadUnvalidated (e : Entry) (r : Rec) : Entry :=
  if e.status = .unknown then { e with status := r.status, resp := r.resp, createdAt := r.createdAt, expiredAt := r.expiredAt } else e

theorem unvalidated_variant_violates :
    let bad : Rec := ⟨.hit, none, 0, 0⟩
    let e := loadUnvalidated { key := ⟨0⟩ } bad
    (∀ now : Int, (Entry.getCore ⟨0⟩ (Entry.expireIf now e)).2 = .hit none)
    ∧ (Entry.getCore ⟨0⟩ (loadUnvalidated { key := ⟨0⟩ } ⟨.fetching, none, 0, 0⟩)).2 = .wait := by
  refine ⟨fun now => ?_, by decide +kernel⟩
  simp [loadUnvalidated, Entry.expireIf, Entry.getCore]

/- non-vacuity: store errors on load, a garbled record, a lost write and a failed delete in one run -/
example :
    (match run false (init 100 true)
      [.arrive ⟨0⟩ ⟨0⟩, .lookup ⟨0⟩, .get ⟨0⟩ .error, .arrive ⟨1⟩ ⟨0⟩, .lookup ⟨1⟩, .get ⟨1⟩ (.record ⟨.hit, none, 5, 0⟩), .park ⟨1⟩,
       .upEnd ⟨0⟩ (.cacheable 60 3), .complete ⟨0⟩ 0, .send ⟨0⟩, .saved ⟨0⟩ false, .purge ⟨0⟩ false, .resume ⟨1⟩, .age ⟨1⟩] with
     | some s => decide (s.pc ⟨1⟩ = .done (.hit (some 3) 0)) && decide (s.pc ⟨0⟩ = .done (.fetched (.cacheable 60 3)))
     | none => false) = true := by decide +kernel

end C10
end Pike
