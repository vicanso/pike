import Pike.Lemmas.SysStore
import Pike.Props.C01
import Pike.Props.C03
import Pike.Spec.Skeleton
/-
C04 — a stored response is never served past its freshness lifetime.
"Obtained" is the instant the entry became a hit (`createdAt`, the `complete` step).
-/
namespace Pike
namespace C04
open Sys Entry

theorem facts_ok : Facts.waiterRereadsEntry = false := C01.facts_handover.1

/-- Obligation on the regenerated statement skeleton of `nowUnix`: the clock every lifetime is measured with is the
wall clock read at each call (`time.Now().Unix()`); the hook in front of it only lets the harness substitute its own
clock.  A cached or ticker-driven clock falls behind whenever the process is stalled, and every "while fewer than T+1
seconds have elapsed" statement of the model is about real seconds. -/
theorem clock_is_wall_clock : Facts.skel_nowUnix = Spec.Skeleton.nowUnix := rfl

/-- The lifetime T an entry is stored with is the freshness the origin declared (s-maxage, else
max-age) minus the Age the response already had when pike obtained it — for the header-reading
code the source has today (`Fresh.cfgOfFacts`, regenerated), restated from C03. -/
theorem stored_lifetime_is_remaining_freshness {c : Fresh.Cfg} (hc : Fresh.cfgOfFacts = some c)
    (method : Str) (f r : Bool) (h : Header) (T : Int)
    (hs : Fresh.storeDecision c method f r h = some T) : T = Spec.C03.lifetime h ∧ 0 < T := by
  have := C03.stored_imp_shareable hc method f r h T hs
  unfold Spec.C03.shareableOK at this
  simp only [Bool.and_eq_true, decide_eq_true_eq] at this
  exact ⟨this.2, this.1.2⟩

/-- FULL STATEMENT (lookups).  With a store that never returns data that was not written to it
(it may fail or lose data at will), in every state reachable by any schedule — concurrent or
sequential, across any number of expiry/refetch epochs, evictions, purges and restarts — a lookup
at time `now` is answered from cache with response `r` only if `r` was fetched for that very key
by a fetch that completed at some time `c` with lifetime `x - c`, and `now ≤ x`: fewer than T+1
whole seconds have passed since pike obtained it. -/
theorem hit_within_lifetime {s s' : State} (h : ReachableH s) (t : Tid) (e : Eid) (so : Load) (r : Option Nat)
    (hpc : s.pc t = .looked e) (hon : Honest s (.get t so))
    (hs : step false s (.get t so) = some s') (hserve : s'.pc t = .hitServe e r) :
    ∃ n c x, r = some n ∧ ((s.entries e).key, n, c, x) ∈ s'.fetched ∧ c < x ∧ s.now ≤ x := by
  obtain ⟨hi, h2⟩ := inv_reachableH h
  rcases hg : Entry.get t s.now so (s.entries e) with ⟨en, g⟩
  obtain ⟨hp, -, -, -, hf⟩ := (Step.of_step hs).get_eq hpc hg
  rw [hp, upd_same] at hserve
  -- the caller is at `hitServe e r`, so `get` reported the hit `r`
  cases g <;> cases hserve
  obtain ⟨⟨n, hn, hmem, hlt⟩, hle⟩ := getHit_fetched hi h2 hpc hon hg
  exact ⟨n, _, _, hn, hf ▸ hmem, hlt, hle⟩

/-- the first lookup after the expiry second goes back to the upstream: the caller becomes the
fetcher (and the completed result then replaces the old triple, `Entry.cacheable`) -/
theorem first_after_expiry_refetches (t : Tid) (now : Int) (so : Load) (e : Entry)
    (hst : e.status = .hit ∨ e.status = .hitForPass) (hx : e.expiredAt ≠ 0) (hexp : e.expiredAt < now) :
    (Entry.get t now so e).2 = .fetch ∧ (Entry.get t now so e).1.status = .fetching := by
  rw [Entry.get_expired t now so hst hx hexp]
  exact ⟨rfl, rfl⟩

/-- hits never extend the lifetime: a lookup answered from cache leaves the entry's timestamps
and response untouched -/
theorem hits_do_not_extend (t : Tid) (now : Int) (so : Load) (e : Entry) (h : Entry.OK e)
    (hst : e.status = .hit) (hh : (Entry.get t now so e).1.status = .hit) :
    (Entry.get t now so e).1.createdAt = e.createdAt ∧ (Entry.get t now so e).1.expiredAt = e.expiredAt
    ∧ (Entry.get t now so e).1.resp = e.resp := by
  obtain ⟨hsrc, _, _⟩ := Entry.get_hit_prov t now so e h hh
  rcases hsrc with ⟨_, h2, h3, h4⟩ | ⟨hu, _⟩
  · exact ⟨h3, h4, h2⟩
  · rw [hst] at hu; simp at hu

/-- PARTIAL (see `age_stmt`).  The Age a hit reports is the whole seconds since the entry became
a hit and is at most the lifetime — provided the clock does not tick and the entry is not
refetched between the request's lookup (`get`) and its separate `Age()` call. -/
theorem age_le_T_partial (t : Tid) (now : Int) (so : Load) (e : Entry) (h : Entry.OK e)
    (hh : (Entry.get t now so e).1.status = .hit) :
    Entry.age now (Entry.get t now so e).1 ≤ (Entry.get t now so e).1.expiredAt - (Entry.get t now so e).1.createdAt := by
  obtain ⟨_, hle, _⟩ := Entry.get_hit_prov t now so e h hh
  unfold Entry.age; omega

/-- the statement without the proviso; it is FALSE of model and code (next theorem) -/
def age_stmt : Prop :=
  ∀ s, Reachable false s → ∀ t r a, s.pc t = .done (.hit r a) →
    ∀ k n c x, (k, n, c, x) ∈ s.fetched → r = some n → a ≤ x - c

/-- witness: lifetime 1, lookup in the last valid second, one tick before `Age()`: Age = 2 -/
def ageWitness : List Event :=
  let k : Key := ⟨0⟩; let a : Tid := ⟨0⟩; let b : Tid := ⟨1⟩
  [.arrive a k, .lookup a, .get a .noStore, .upEnd a (.cacheable 1 7), .complete a 0, .saved a true,
   .tick 1, .arrive b k, .lookup b, .get b .noStore, .tick 1, .age b]

theorem age_can_exceed :
    (match run false (init 100 false) ageWitness with
     | some s => decide (s.pc ⟨1⟩ = .done (.hit (some 7) 2)) && decide (s.fetched = [(⟨0⟩, 7, 100, 101)])
     | none => false) = true := by decide +kernel

/-- int64 overflow of `createdAt + ttl`: the wrapped expiry lies in the past, so such an entry
is refetched by the very next lookup — never served -/
theorem overflow_never_served (now ttl : Int) (h1 : 0 < now) (h2 : now < 4611686018427387904)
    (h3 : 0 < ttl) (h4 : ttl ≤ 9223372036854775807) (hov : now + ttl ≥ 9223372036854775808) :
    Entry.expiryWrap now ttl ≠ 0 ∧ Entry.expiryWrap now ttl < now := by
  -- the sum stays below 2^64, so it wraps to `now + ttl - 2^64`, which is negative
  have hm : (now + ttl) % 18446744073709551616 = now + ttl := Int.emod_eq_of_lt (by omega) (by omega)
  simp only [Entry.expiryWrap, hm, if_pos hov]
  omega

/- non-vacuity: a schedule with a fetch, a hit inside the lifetime, an expiry and a refetch -/
example :
    (match run false (init 100 false)
      [.arrive ⟨0⟩ ⟨0⟩, .lookup ⟨0⟩, .get ⟨0⟩ .noStore, .upEnd ⟨0⟩ (.cacheable 2 7), .complete ⟨0⟩ 0, .saved ⟨0⟩ true,
       .tick 2, .arrive ⟨1⟩ ⟨0⟩, .lookup ⟨1⟩, .get ⟨1⟩ .noStore, .age ⟨1⟩,
       .tick 1, .arrive ⟨2⟩ ⟨0⟩, .lookup ⟨2⟩, .get ⟨2⟩ .noStore] with
     | some s => decide (s.pc ⟨1⟩ = .done (.hit (some 7) 2)) && decide (s.pc ⟨2⟩ = .fetchUp ⟨0⟩)
     | none => false) = true := by decide +kernel

end C04
end Pike
