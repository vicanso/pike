import Pike.Model.Location
import Pike.Spec.Skeleton
import Pike.Facts
/-
C14 — routing picks a matching location of the best specificity class.
All statements quantify over every location list and every order the unstable sort may
leave equal-priority locations in (`SortedPerm`).
-/
namespace Pike
namespace C14
open Location Str

/-- Obligation on the regenerated statement skeletons of `Location.Match`, `Locations.Get` and `Locations.Set`: host list then prefix list; first match among the named locations in stored order; sorted by priority BEFORE the list is published under the mutex. -/
theorem skeleton_transcribed :
    Facts.skel_Location_Match = Spec.Skeleton.Location_Match
    ∧ Facts.skel_Locations_Get = Spec.Skeleton.Locations_Get
    ∧ Facts.skel_Locations_Set = Spec.Skeleton.Locations_Set := by
  refine ⟨?_, ?_, ?_⟩ <;> rfl

/-- Obligation on the translated `getPriority` and the extracted comparator: ascending sort,
and the four classes order as prefix+host < prefix < host < unconstrained, whatever the
(non-zero) numbers of prefixes and hosts. -/
theorem classes_ok :
    Facts.locationSort = "asc"
    ∧ ∀ p h : Int, 0 < p → 0 < h →
      Facts.locationPriority p h < Facts.locationPriority p 0
      ∧ Facts.locationPriority p 0 < Facts.locationPriority 0 h
      ∧ Facts.locationPriority 0 h < Facts.locationPriority 0 0 := by
  refine ⟨rfl, fun p h hp hh => ?_⟩
  simp [Facts.locationPriority, Int.ne_of_gt hp, Int.ne_of_gt hh]

theorem before_iff (a b : Loc) : before a b ↔ a.priority ≤ b.priority := by
  unfold before; rw [if_pos classes_ok.1]

/-- the answer is one of the server's own (named) locations and it matches host and URI -/
theorem get_matches (locs sorted : List Loc) (hs : SortedPerm locs sorted) (host url : Str) (names : List Str)
    (l : Loc) (h : get sorted host url names = some l) :
    l ∈ locs ∧ l.name ∈ names ∧ l.matches host url = true :=
  ⟨hs.1.subset (List.mem_of_find?_eq_some h), by simpa using List.find?_some h⟩

/-- FULL STATEMENT.  Among the named matching locations the answer is one of the most specific
class: no named matching location has a strictly smaller priority value. -/
theorem get_best_class (locs sorted : List Loc) (hs : SortedPerm locs sorted) (host url : Str) (names : List Str)
    (l : Loc) (h : get sorted host url names = some l)
    (l' : Loc) (hl' : l' ∈ locs) (hn : l'.name ∈ names) (hm : l'.matches host url = true) :
    l.priority ≤ l'.priority := by
  obtain ⟨hperm, hsorted⟩ := hs
  -- `sorted = as ++ l :: bs` with no named match in `as`: so `l'` is `l` or comes after it
  obtain ⟨-, as, bs, rfl, hnone⟩ := List.find?_eq_some_iff_append.mp h
  rcases List.mem_append.mp (hperm.symm.subset hl') with hin | hin
  · simpa [hn, hm] using hnone l' hin
  · rcases List.mem_cons.mp hin with rfl | hin
    · exact Int.le_refl _
    · exact (before_iff _ _).mp (List.rel_of_pairwise_cons (List.pairwise_append.mp hsorted).2.1 hin)

/-- `none` exactly when no named location matches (the pipeline then answers 5xx without
contacting any upstream: `Pipeline.no_location_no_upstream`) -/
theorem none_iff (locs sorted : List Loc) (hs : SortedPerm locs sorted) (host url : Str) (names : List Str) :
    get sorted host url names = none ↔ ∀ l ∈ locs, ¬ (l.name ∈ names ∧ l.matches host url = true) := by
  simp [Location.get, hs.1.mem_iff]

/-- locations not listed on the server are never used -/
theorem only_listed (locs sorted : List Loc) (hs : SortedPerm locs sorted) (host url : Str) (names : List Str)
    (l : Loc) (h : get sorted host url names = some l) : l.name ∈ names :=
  (get_matches locs sorted hs host url names l h).2.1

theorem mem_candidates {locs : List Loc} {host url : Str} {names : List Str} {l : Loc} :
    l ∈ candidates locs host url names ↔ l ∈ locs ∧ l.name ∈ names ∧ l.matches host url = true := by
  simp [candidates]

/-- the executable answer set used by the correspondence judge is exactly what the theorems
allow: whatever the sort did, the answer is in `allowed` -/
theorem get_in_allowed (locs sorted : List Loc) (hs : SortedPerm locs sorted) (host url : Str) (names : List Str)
    (l : Loc) (h : get sorted host url names = some l) : l ∈ allowed locs host url names := by
  simp only [allowed, List.mem_filter, List.all_eq_true, decide_eq_true_eq, mem_candidates]
  exact ⟨get_matches locs sorted hs host url names l h,
    fun l' ⟨h1, h2, h3⟩ => get_best_class locs sorted hs host url names l h l' h1 h2 h3⟩

/- non-vacuity: a concrete configuration where all four classes compete -/
example :
    let locs : List Loc := [⟨"any".toList, [], [], []⟩, ⟨"h".toList, ["a.test".toList], [], []⟩,
      ⟨"p".toList, [], ["/api".toList], []⟩, ⟨"ph".toList, ["a.test".toList], ["/api".toList], []⟩]
    (allowed locs "a.test".toList "/api/x".toList (locs.map (·.name))).map (·.name) = ["ph".toList]
    ∧ (allowed locs "b.test".toList "/api/x".toList (locs.map (·.name))).map (·.name) = ["p".toList]
    ∧ (allowed locs "a.test".toList "/x".toList (locs.map (·.name))).map (·.name) = ["h".toList]
    ∧ (allowed locs "b.test".toList "/x".toList ["h".toList, "p".toList]) = [] := by decide +kernel

end C14
end Pike
