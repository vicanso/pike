import Pike.Model.Upstream
import Pike.Facts
/-
C19 — traffic goes only to healthy upstream servers, backups last (PARTIAL: the health vector is
an input here; how fast the checker updates it is runtime behaviour exercised by the suite).
-/
namespace Pike
namespace C19
open Upstream

/-- Obligation on the extracted facts (upstream/upstream.go): every upstream gets one synchronous
health check when it is created and then the periodic checker, started unconditionally — the
health vector `next` reads is therefore kept current for every configuration (whether or not a
health-check path is configured), which is what "traffic resumes by itself" rests on.  How fast
the checker reacts is runtime behaviour, exercised by the `settle` mode of the suite. -/
theorem facts_checker_started :
    Facts.healthCheckOnCreate = true ∧ Facts.healthCheckLoopUnconditional = true := ⟨rfl, rfl⟩

/-- Obligation on the extracted facts (main.go): the status callback that the health checker calls between the
check of one server and the next does nothing synchronously but logging — the alarm (an HTTP POST without a
time-out) is handed to a goroutine.  A callback that blocks would freeze the health vector `next` reads. -/
theorem facts_status_callback_does_not_block :
    Facts.statusCallbackSyncCalls = [] ∧ Facts.statusCallbackGoCalls = ["doAlarm"] := ⟨rfl, rfl⟩

theorem mem_prims {ss : List Server} {i : Nat} : i ∈ (List.range ss.length).filter (isPrim ss) ↔
    ∃ s, ss[i]? = some s ∧ s.healthy = true ∧ s.backup = false := by
  by_cases hi : i < ss.length <;> simp [isPrim, hi]

theorem mem_backs {ss : List Server} {i : Nat} : i ∈ (List.range ss.length).filter (isBack ss) ↔
    ∃ s, ss[i]? = some s ∧ s.healthy = true ∧ s.backup = true := by
  by_cases hi : i < ss.length <;> simp [isBack, hi]

theorem prims_eq_nil {ss : List Server} : (List.range ss.length).filter (isPrim ss) = [] ↔
    ∀ (j : Nat) (s' : Server), ss[j]? = some s' → s'.healthy = true → s'.backup = true := by
  simp only [List.eq_nil_iff_forall_not_mem, mem_prims, not_exists, not_and, Bool.not_eq_false]

theorem mem_candidates {ss : List Server} {i : Nat} (h : i ∈ candidates ss) :
    ∃ s, ss[i]? = some s ∧ s.healthy = true
      ∧ (s.backup = true → ∀ (j : Nat) (s' : Server), ss[j]? = some s' → s'.healthy = true → s'.backup = true) := by
  unfold candidates at h
  split at h
  · obtain ⟨s, hs, hh, hb⟩ := mem_prims.mp h
    exact ⟨s, hs, hh, by simp [hb]⟩
  · next hp =>
    obtain ⟨s, hs, hh, _⟩ := mem_backs.mp h
    exact ⟨s, hs, hh, fun _ => prims_eq_nil.mp (by simpa using hp)⟩

theorem candidates_eq_nil {ss : List Server} : candidates ss = [] ↔ ∀ s ∈ ss, s.healthy = false := by
  constructor
  · intro h s hs
    obtain ⟨i, hi⟩ := List.getElem?_of_mem hs
    refine Bool.eq_false_iff.mpr fun hh => ?_
    unfold candidates at h
    split at h
    · next hp => simp [h] at hp
    · next hp =>
      -- no healthy primary, so `s` is a backup
      have := mem_backs.mpr ⟨s, hi, hh, prims_eq_nil.mp (by simpa using hp) i s hi hh⟩
      simp [h] at this
  · intro h
    refine List.eq_nil_iff_forall_not_mem.mpr fun i hi => ?_
    obtain ⟨s, hs, hh, _⟩ := mem_candidates hi
    simp [h s (List.mem_of_getElem? hs)] at hh

theorem candidates_nodup (ss : List Server) : (candidates ss).Nodup := by
  unfold candidates
  split <;> exact List.Pairwise.filter _ List.nodup_range

/-- on a non-empty list the fold goes on from `some` first element and keeps an index it has met -/
theorem leastIdx_of_ne_nil (ss : List Server) {cs : List Nat} (h : cs ≠ []) : ∃ i ∈ cs, leastIdx ss cs = some i := by
  obtain ⟨a, l, rfl⟩ := List.exists_cons_of_ne_nil h
  refine List.foldlRecOn l _ (motive := fun best => ∃ i ∈ a :: l, best = some i) ⟨a, List.mem_cons_self, rfl⟩ ?_
  rintro _ ⟨i, hi, rfl⟩ x hx
  simp only
  split
  · exact ⟨x, List.mem_cons_of_mem _ hx, rfl⟩
  · exact ⟨i, hi, rfl⟩

theorem next_mem {p : Policy} {ss : List Server} {rr rnd i : Nat} (h : (next p ss rr rnd).1 = some i) :
    i ∈ candidates ss := by
  unfold next at h
  simp only at h
  split at h
  · cases h
  · next hn =>
    cases p with
    | leastconn =>
      obtain ⟨j, hj, he⟩ := leastIdx_of_ne_nil ss (mt List.length_eq_zero_iff.mpr hn)
      rw [he] at h; cases h; exact hj
    | _ => exact List.mem_of_getElem? h

theorem next_eq_none {p : Policy} {ss : List Server} {rr rnd : Nat} :
    (next p ss rr rnd).1 = none ↔ candidates ss = [] := by
  unfold next
  simp only
  split
  · next hn => simp [List.length_eq_zero_iff.mp hn]
  · next hn =>
    have hne := mt List.length_eq_zero_iff.mpr hn
    obtain ⟨j, _, he⟩ := leastIdx_of_ne_nil ss hne
    cases p <;> simp [hne, he, Nat.mod_lt, Nat.pos_of_ne_zero hn]

/-- FULL STATEMENT (selection).  Whatever the policy, the round-robin counter, the random draw and
the connection counts: the chosen server exists and is currently healthy, and it is a backup only
if no primary server is healthy. -/
theorem next_healthy (p : Policy) (ss : List Server) (rr rnd i : Nat) (h : (next p ss rr rnd).1 = some i) :
    ∃ s, ss[i]? = some s ∧ s.healthy = true
      ∧ (s.backup = true → ∀ (j : Nat) (s' : Server), ss[j]? = some s' → s'.healthy = true → s'.backup = true) :=
  mem_candidates (next_mem h)

/-- no server is chosen exactly when none is healthy (the proxy then answers 503), and as soon as
one is healthy again a server is chosen: selection depends only on the CURRENT vector -/
theorem none_iff_none_healthy (p : Policy) (ss : List Server) (rr rnd : Nat) :
    (next p ss rr rnd).1 = none ↔ ∀ s ∈ ss, s.healthy = false :=
  next_eq_none.trans candidates_eq_nil

/-- slots chosen by k consecutive round-robin calls starting at counter a over n candidates -/
def slots (n a k : Nat) : List Nat := (List.range' a k).map (· % n)

theorem slots_add (n a k m : Nat) : slots n a (k + m) = slots n a k ++ slots n (a + k) m := by
  rw [slots, ← List.range'_append_1, List.map_append]; rfl

/-- Round robin visits the healthy candidates in turn: in any window of n consecutive calls (n = number of
candidates, no 2³² counter wrap inside the window) every candidate is chosen exactly once.  For the counters
0 … n-1 the slots are 0 … n-1; moving the window up by one drops `a % n` at the front and adds `(a + n) % n`,
the same slot, at the end. -/
theorem slots_window_perm (n a : Nat) : (slots n a n).Perm (List.range n) := by
  induction a with
  | zero =>
    rw [slots, ← List.range_eq_range', List.map_congr_left (g := id), List.map_id]
    exact fun j hj => Nat.mod_eq_of_lt (List.mem_range.mp hj)
  | succ a ih =>
    refine .trans ?_ ih
    cases n with
    | zero => exact .refl _
    | succ m =>
      rw [slots_add (m + 1) (a + 1) m 1, Nat.add_assoc, Nat.add_comm 1 m]
      show (_ ++ [(a + (m + 1)) % (m + 1)]).Perm (a % (m + 1) :: _)
      rw [Nat.add_mod_right]
      exact List.perm_append_singleton _ _

/-- in particular no slot is chosen twice in a window -/
theorem rr_window_injective (n a j1 j2 : Nat) (hn : 0 < n) (h1 : j1 < n) (h2 : j2 < n)
    (h : (a + j1) % n = (a + j2) % n) : j1 = j2 := by
  have hnd : (slots n a n).Nodup := (slots_window_perm n a).nodup_iff.mpr List.nodup_range
  exact (List.getElem?_inj (by simp [slots, h1]) hnd).mp (by simp [slots, h1, h2, h])

theorem rr_periodic (n a j : Nat) : (a + j + n) % n = (a + j) % n := Nat.add_mod_right _ _

theorem slots_window_count (n a r : Nat) (hr : r < n) : (slots n a n).count r = 1 := by
  rw [(slots_window_perm n a).count_eq, List.count_range, if_pos hr]

/-- each further full period adds one to every slot's count -/
theorem slots_count (n a m q r : Nat) (hr : r < n) : (slots n a (m + n * q)).count r = (slots n a m).count r + q := by
  induction q with
  | zero => rfl
  | succ q ih => rw [Nat.mul_succ, ← Nat.add_assoc, slots_add, List.count_append, ih, slots_window_count n _ r hr]; rfl

/-- FAIRNESS.  Over any number k of sequential round-robin calls the per-slot counts of any two of
the n candidates differ by at most one. -/
theorem slots_balanced (n a k r1 r2 : Nat) (h1 : r1 < n) (h2 : r2 < n) :
    (slots n a k).count r1 ≤ (slots n a k).count r2 + 1 := by
  rw [← Nat.mod_add_div k n, slots_count n a _ _ r1 h1, slots_count n a _ _ r2 h2]
  -- what is left is shorter than a period, so the beginning of a window
  have hw := slots_window_count n a r1 h1
  have hs := slots_add n a (k % n) (n - k % n)
  rw [Nat.add_sub_cancel' (Nat.le_of_lt (Nat.mod_lt k (by omega)))] at hs
  rw [hs, List.count_append] at hw
  omega

/-- k sequential round-robin requests against a fixed health vector, threading the counter -/
def rrRun (ss : List Server) : Nat → Nat → List (Option Nat)
  | 0, _ => []
  | k + 1, rr => (next .roundRobin ss rr 0).1 :: rrRun ss k (next .roundRobin ss rr 0).2

theorem next_roundRobin (ss : List Server) (rr rnd : Nat) : next .roundRobin ss rr rnd =
    ((candidates ss)[(rr + 1) % 4294967296 % (candidates ss).length]?, (rr + 1) % 4294967296) := by
  simp only [next, ↓reduceIte]
  split
  · next h => simp [List.length_eq_zero_iff.mp h]
  · rfl

theorem rrRun_eq_slots (ss : List Server) (k rr : Nat) (h : rr + k < 4294967296) :
    rrRun ss k rr = (slots (candidates ss).length (rr + 1) k).map ((candidates ss)[·]?) := by
  induction k generalizing rr with
  | zero => rfl
  | succ k ih =>
    rw [rrRun, next_roundRobin, Nat.mod_eq_of_lt (show rr + 1 < 4294967296 by omega), ih (rr + 1) (by omega)]
    rfl

/-- in a list without duplicates, looking up is injective on the valid indices -/
theorem count_map_getElem? {cs : List Nat} (hnd : cs.Nodup) {i : Nat} (hi : i < cs.length) (l : List Nat) :
    (l.map (cs[·]?)).count cs[i]? = l.count i := by
  rw [List.count_eq_countP, List.countP_map, List.count_eq_countP]
  exact List.countP_congr fun j _ => by
    simp only [Function.comp_apply, beq_iff_eq]
    exact eq_comm.trans ((List.getElem?_inj hi hnd).trans eq_comm)

/-- FAIRNESS of round robin (full statement, no counter wrap inside the run): over k sequential
requests against a fixed health vector, the numbers of requests sent to any two candidate servers
differ by at most one. -/
theorem rr_fair (ss : List Server) (k rr c1 c2 : Nat) (hw : rr + k < 4294967296)
    (h1 : c1 ∈ candidates ss) (h2 : c2 ∈ candidates ss) :
    (rrRun ss k rr).count (some c1) ≤ (rrRun ss k rr).count (some c2) + 1 := by
  obtain ⟨i1, hi1, rfl⟩ := List.getElem_of_mem h1
  obtain ⟨i2, hi2, rfl⟩ := List.getElem_of_mem h2
  rw [rrRun_eq_slots ss k rr hw, ← List.getElem?_eq_getElem hi1, ← List.getElem?_eq_getElem hi2,
    count_map_getElem? (candidates_nodup ss) hi1, count_map_getElem? (candidates_nodup ss) hi2]
  exact slots_balanced _ _ k i1 i2 hi1 hi2

/-- and nothing else is ever chosen -/
theorem rr_only_candidates (ss : List Server) : ∀ (k rr c : Nat), some c ∈ rrRun ss k rr → c ∈ candidates ss := by
  intro k
  induction k with
  | zero => intro rr c h; cases h
  | succ k ih =>
    intro rr c h
    rcases List.mem_cons.mp h with h | h
    · exact next_mem h.symm
    · exact ih _ c h

example : rrRun [⟨true, false, 0⟩, ⟨false, false, 0⟩, ⟨true, false, 0⟩] 5 0 = [some 2, some 0, some 2, some 0, some 2] := by decide +kernel

/- non-vacuity -/
example : (next .roundRobin [⟨true, false, 0⟩, ⟨false, false, 0⟩, ⟨true, false, 0⟩, ⟨true, true, 0⟩] 0 0).1 = some 2 := by decide +kernel
example : (next .first [⟨false, false, 0⟩, ⟨true, true, 0⟩] 0 0).1 = some 1 := by decide +kernel
example : (next .leastconn [⟨true, false, 3⟩, ⟨true, false, 1⟩, ⟨true, false, 1⟩] 0 0).1 = some 1 := by decide +kernel
example : (next .random [⟨false, false, 0⟩, ⟨false, true, 0⟩] 5 7).1 = none := by decide +kernel

end C19
end Pike
