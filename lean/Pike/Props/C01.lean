import Pike.Lemmas.SysDrain
import Pike.Spec.Skeleton
/-
C01 — single flight: one upstream fetch per cold or expired cache key.
The statements quantify over `Reachable Facts.waiterRereadsEntry`: every state the system can
be in after ANY schedule of ANY number of threads on ANY keys, with clock ticks between any two
steps (also between a waiter's wake-up and its resumption), any store and upstream behaviour,
purges, evictions, crashes — for the post-wake behaviour the source has today.
-/
namespace Pike
namespace C01
open Sys Entry

/-- Obligation on the extracted facts: a woken waiter uses what was handed over with the
wake-up and does not read entry fields after the channel receive. -/
theorem facts_handover : Facts.waiterRereadsEntry = false ∧ Facts.getShape = "ok" := ⟨rfl, rfl⟩

/-- Obligation on the extracted lock scopes (cache/dispatcher.go): the dispatcher's get-or-create
is ONE critical section of the shard mutex, held to the end of the function, and the lookup and
the insert of the shard's LRU happen under it — which is why `Sys.step (.lookup t)` may treat
"find the resident entry or create and install a new one" as a single atomic step. -/
theorem facts_get_or_create_atomic :
    "dispatcher.GetHTTPCache:httpLRUCache:1:deferred" ∈ Facts.lockSections
      ∧ (Facts.accessTable.filter fun a => a.typ = "httpLRUCache" ∧ a.field = "cache").all (fun a => a.lockW) = true := by
  decide +kernel

/-- Obligation on the regenerated statement skeletons: the entry state machine and the dispatcher's
get-or-create / purge in the Go source are, statement for statement (conditions, field updates,
calls, sends, in source order), what `Entry` and `Sys.step` were transcribed from — see
`Pike/Spec/Skeleton.lean` for the mapping.  Any edit of these functions other than logging or hook
calls breaks this obligation, whether or not a property is affected; the suites then look for an
input on which one fails. -/
theorem skeleton_transcribed :
    Facts.skel_Get = Spec.Skeleton.Get ∧ Facts.skel_get = Spec.Skeleton.get
    ∧ Facts.skel_HitForPass = Spec.Skeleton.HitForPass ∧ Facts.skel_Cacheable = Spec.Skeleton.Cacheable
    ∧ Facts.skel_initFromStore = Spec.Skeleton.initFromStore ∧ Facts.skel_saveToStore = Spec.Skeleton.saveToStore
    ∧ Facts.skel_Age = Spec.Skeleton.Age ∧ Facts.skel_GetStatus = Spec.Skeleton.GetStatus
    ∧ Facts.skel_IsExpired = Spec.Skeleton.IsExpired
    ∧ Facts.skel_disp_GetHTTPCache = Spec.Skeleton.disp_GetHTTPCache
    ∧ Facts.skel_disp_RemoveHTTPCache = Spec.Skeleton.disp_RemoveHTTPCache :=
  ⟨rfl, rfl, rfl, rfl, rfl, rfl, rfl, rfl, rfl, rfl, rfl⟩

/- By `facts_handover` the variant the source has is the hand-over variant, the one `Inv` and `Step` are about. -/
theorem reach_false {s : State} (h : Reachable Facts.waiterRereadsEntry s) : Reachable false s := facts_handover.1 ▸ h

theorem reach_inv {s : State} (h : Reachable Facts.waiterRereadsEntry s) : Inv s := inv_reachable (reach_false h)

theorem step_false {s s' : State} {ev : Event} (hs : step Facts.waiterRereadsEntry s ev = some s') :
    step false s ev = some s' := facts_handover.1 ▸ hs

theorem step_Step {s s' : State} {ev : Event} (hs : step Facts.waiterRereadsEntry s ev = some s') : Step s ev s' :=
  .of_step (step_false hs)

/-- FULL STATEMENT (1).  In every reachable state at most one thread is in the fetch role of
an entry: two requests are never in flight to the upstream for the same entry. -/
theorem single_owner {s : State} (h : Reachable Facts.waiterRereadsEntry s) (t u : Tid) (e : Eid)
    (ht : fetchOf (s.pc t) = some e) (hu : fetchOf (s.pc u) = some e) : t = u :=
  have hi := reach_inv h
  Option.some.inj ((hi.fetch_owner t e ht).symm.trans (hi.fetch_owner u e hu))

/-- ... and requests of one key share one entry as long as it is neither evicted nor purged:
a lookup returns the resident entry, which was created for that key. -/
theorem same_entry_per_key {s s' : State} (h : Reachable Facts.waiterRereadsEntry s) (t : Tid) (k : Key) (e : Eid)
    (hpc : s.pc t = .arrived k) (hres : s.shard k = some e)
    (hs : step Facts.waiterRereadsEntry s (.lookup t) = some s') :
    s'.pc t = .looked e ∧ (s.entries e).key = k := by
  simp only [step, hpc, hres, Option.some.injEq] at hs
  subst hs
  exact ⟨upd_same .., ((reach_inv h).shard_alloc k e hres).2⟩

/-- FULL STATEMENT (2).  A request that looks the entry up while a fetch is in flight becomes a
registered waiter; it does not go upstream. -/
theorem arrivals_wait {s s' : State} (h : Reachable Facts.waiterRereadsEntry s) (t : Tid) (e : Eid) (so : Load)
    (hpc : s.pc t = .looked e) (hf : (s.entries e).status = .fetching)
    (hs : step Facts.waiterRereadsEntry s (.get t so) = some s') :
    s'.pc t = .registered e ∧ t ∈ (s'.entries e).waiters := by
  have hx := ((reach_inv h).entry_ok e).exp_zero (.inl hf)
  obtain ⟨hp, he, -⟩ := (step_Step hs).get_eq hpc (Entry.get_fetching t s.now so hf hx)
  simp [hp, he]

/-- A waiter never contacts the upstream as a fetcher before or after it is woken: no step takes
a registered, parked or woken thread into the fetch role. -/
theorem waiter_never_fetches {s s' : State} (h : Reachable Facts.waiterRereadsEntry s) (ev : Event) (t : Tid)
    (hw : waitOf (s.pc t) ≠ none ∨ ∃ e st r, s.pc t = .woken e st r)
    (hs : step Facts.waiterRereadsEntry s ev = some s') : fetchOf (s'.pc t) = none := by
  have hnf : fetchOf (s.pc t) = none := by
    rcases hw with hw | ⟨e, st, r, hw⟩
    · obtain ⟨e, he⟩ := Option.ne_none_iff_exists'.mp hw
      rcases waitOf_eq_some.mp he with h | h <;> simp [h]
    · simp [hw]
  -- afterwards `t` is where it was, unless it is the thread `a` that the step moves (to `q`)
  have key : ∀ {a q}, (a = t → fetchOf q = none) → fetchOf (upd s.pc a q t) = none := fun hq => by
    rw [upd_apply]; split
    · exact hq (Eq.symm ‹_›)
    · exact hnf
  cases step_Step hs with
  | crash => rfl
  | drop | purge | tick => exact hnf
  -- the branches into a fetch pc: from `woken` only with status `fetching`, which is never handed over; ...
  | resumeFetching hpc => cases (reach_inv h).woken_status _ _ _ _ hpc <;> contradiction
  -- ... from `looked` and from `fetchUp`, where `t` is not
  | getFetch hpc | upEndFetch hpc => exact key fun h => by subst h; simp [hpc] at hw
  -- every other branch takes its thread to a pc outside the fetch role
  | _ => exact key fun _ => rfl

/-- FULL STATEMENT (3).  If the fetch turns out cacheable with response `r`, every waiter the
completer sends to is handed `(hit, r)`, and on resuming serves exactly `r` — without any
upstream contact (previous theorem) — no matter how the clock moves in between. -/
theorem answered_from_fetch {s s1 s2 : State} (h : Reachable Facts.waiterRereadsEntry s) (t u : Tid) (e : Eid)
    (ttl : Int) (r : Nat) (rest : List Tid)
    (hpc : s.pc t = .draining e (.cacheable ttl r)) (hq : s.queue e = u :: rest)
    (hs1 : step Facts.waiterRereadsEntry s (.send t) = some s1) :
    s1.pc u = .woken e .hit (some r)
    ∧ (∀ sx, sx.pc u = .woken e .hit (some r) → step Facts.waiterRereadsEntry sx (.resume u) = some s2 →
        s2.pc u = .hitServe e (some r)) := by
  obtain ⟨hst, hresp⟩ := (invD_reachable (reach_false h)).drain_hit t e ttl r hpc
  refine ⟨?_, fun sx hx hs2 => ?_⟩
  · cases step_Step hs1 with
    | send hpc' hq' => cases hpc.symm.trans hpc'; cases hq.symm.trans hq'; simp [hst, hresp]
  · cases step_Step hs2 with
    | resumeHit hpc' => cases hx.symm.trans hpc'; exact upd_same ..
    | resumePass hpc' hst' => cases hx.symm.trans hpc'; simp at hst'
    | resumeFetching hpc' => cases hx.symm.trans hpc'

/-- FULL STATEMENT (4), the burst: while a fetch is in flight on an entry, any number N of other
threads that look the entry up are all waiters of that entry and none of them is in the fetch
role — so N identical cold requests cost exactly the one upstream request of the owner. -/
theorem burst_one_upstream {s : State} (h : Reachable Facts.waiterRereadsEntry s) (e : Eid) (owner : Tid)
    (ho : fetchOf (s.pc owner) = some e) :
    ∀ u, u ≠ owner → fetchOf (s.pc u) ≠ some e :=
  fun u hne hu => hne (single_owner h u owner e hu ho)

/-- The defect of the pinned tree, as a theorem about the variant in which the woken waiter
re-reads the entry without the lock: A fetches, B waits, A completes with lifetime 1 and wakes B,
two seconds pass, C finds the entry expired and becomes the fetcher, B resumes and reads
`fetching` — two threads in the fetch role of one entry. -/
def rereadWitness : List Event :=
  let k : Key := ⟨0⟩; let a : Tid := ⟨0⟩; let b : Tid := ⟨1⟩; let c : Tid := ⟨2⟩
  [.arrive a k, .lookup a, .get a .noStore, .arrive b k, .lookup b, .get b .noStore, .park b,
   .upEnd a (.cacheable 1 7), .complete a 0, .send a, .saved a true, .tick 2,
   .arrive c k, .lookup c, .get c .noStore, .resume b]

theorem reread_variant_violates :
    (match run true (init 100 false) rereadWitness with
     | some s => fetchOf (s.pc ⟨1⟩) == some ⟨0⟩ && fetchOf (s.pc ⟨2⟩) == some ⟨0⟩
     | none => false) = true := by decide +kernel

/-- the same schedule is harmless with the hand-over -/
theorem handover_same_schedule :
    (match run false (init 100 false) rereadWitness with
     | some s => fetchOf (s.pc ⟨1⟩) == none && fetchOf (s.pc ⟨2⟩) == some ⟨0⟩
     | none => false) = true := by decide +kernel

end C01
end Pike
