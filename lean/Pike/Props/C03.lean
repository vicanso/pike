import Pike.Lemmas.Fresh
import Pike.Spec.Skeleton
import Pike.Lemmas.SysUps
import Pike.Props.C01
/-
C03 — only responses the origin marked shareable are ever stored.
Property theorems only; helper lemmas are in Pike/Lemmas/Fresh.lean.
The configuration `c` is what the Go source denotes *now* (`Fresh.cfgOfFacts`, computed
from the regenerated `Pike.Facts`).
-/
namespace Pike
namespace C03
open Str Fresh

/-- Obligation on the extracted facts: the three regexes and the Set-Cookie test have the
shape under which the general theorem applies (case-insensitive alternation containing
no-cache, no-store and private; presence test on all Set-Cookie values). -/
theorem facts_ok : cfgOfFacts.map (fun c => decide (CfgOK c)) = some true := by decide +kernel

/-- Obligation on the extracted facts (all non-test files): the upstream exchange is performed by `net/http`'s own
transport — pike declares no `RoundTrip` of its own and builds no `http.Client` in the request path.  A wrapper
(retry after a lost connection, a client that follows redirects) changes how often a request reaches the origin and
which of the origin's answers is judged and stored; "forwarded exactly once" and "stored only if the origin marked it
shareable" are stated about the exchange the model sees: one request, one answer.  (Dynamic counterpart: suite `fault`.) -/
theorem facts_upstream_exchange_is_plain :
    Facts.roundTripperImpls = [] ∧ Facts.requestPathHTTPClients = [] := by decide

/-- Obligation on the regenerated statement skeletons of `getCacheMaxAge` and `requestIsPass`: they are,
statement for statement, what `Fresh.cacheMaxAge` / `Fresh.requestIsPass` transcribe (Set-Cookie test,
joined Cache-Control, the three regular expressions in this order, s-maxage before max-age, Age subtracted
last on every path). -/
theorem skeleton_transcribed :
    Facts.skel_getCacheMaxAge = Spec.Skeleton.getCacheMaxAge ∧ Facts.skel_requestIsPass = Spec.Skeleton.requestIsPass := by
  constructor <;> rfl

/-- FULL STATEMENT.  Whatever the method, the position of the request (fetcher or not),
and the upstream header set: if the cache middleware stores the response with lifetime
`L`, then the method is GET/HEAD, no Set-Cookie field is present, a Cache-Control field is
present, no directive token (any order, spacing, casing, split over lines or not) is
no-cache / no-store / private, `L > 0`, and `L` is (s-maxage, else max-age) minus Age.
The status code, `Expires` and every other header do not occur in the decision at all. -/
theorem stored_imp_shareable {c : Cfg} (hc : cfgOfFacts = some c)
    (method : Str) (fetching hasResp : Bool) (h : Header) (L : Int)
    (hs : storeDecision c method fetching hasResp h = some L) :
    Spec.C03.shareableOK method h L = true :=
  stored_shareable (by simpa [hc] using facts_ok) hs

/-- a request that is not GET/HEAD never stores -/
theorem non_get_head_never_stored (c : Cfg) (method : Str) (f r : Bool) (h : Header)
    (hm : method ≠ "GET".toList ∧ method ≠ "HEAD".toList) :
    storeDecision c method f r h = none :=
  Option.eq_none_iff_forall_ne_some.mpr fun _ hs => (storeDecision_eq_some.mp hs).1.elim hm.1 hm.2

/-- a response that does not qualify is not stored, and a request that is not the key's
fetcher (a hit-for-pass or waiter request) never stores what it fetched -/
theorem only_fetcher_stores (c : Cfg) (method : Str) (r : Bool) (h : Header) :
    storeDecision c method false r h = none :=
  Option.eq_none_iff_forall_ne_some.mpr fun _ hs => nomatch (storeDecision_eq_some.mp hs).2.1

/-- the decision depends on nothing but Set-Cookie, Cache-Control and Age -/
theorem noninterference (c : Cfg) (h h' : Header)
    (h1 : h.values hSetCookie = h'.values hSetCookie)
    (h2 : h.values hCacheControl = h'.values hCacheControl)
    (h3 : h.values hAge = h'.values hAge) :
    cacheMaxAge c h = cacheMaxAge c h' := by
  unfold cacheMaxAge setCookiePresent Header.get
  rw [h1, h2, h3]

/-- the stored lifetime is always a positive int64, also for huge max-age / Age values -/
theorem overflow_safe {c : Cfg} (hc : cfgOfFacts = some c)
    (method : Str) (f r : Bool) (h : Header) (L : Int)
    (hs : storeDecision c method f r h = some L) : 0 < L :=
  (storeDecision_eq_some.mp hs).2.2.2.2

/-- FULL STATEMENT (the label is truthful).  In every reachable state of the concurrent system
(any schedule, clock, store and upstream behaviour), a finished request that was answered as a
hit has completed ZERO upstream requests, and every other finished request — the key's fetcher,
a hit-for-pass or non-GET/HEAD pass, a waiter told to pass — has completed exactly ONE. -/
theorem label_truthful {s : Sys.State} (h : Sys.Reachable Facts.waiterRereadsEntry s) (t : Tid) :
    (∀ r a, s.pc t = .done (.hit r a) → s.ups t = 0)
    ∧ (∀ o, s.pc t = .done (.fetched o) → s.ups t = 1)
    ∧ (s.pc t = .done .passed → s.ups t = 1) := by
  have hu := Sys.invU_reachable (C01.reach_false h) t
  refine ⟨fun r a hp => ?_, fun o hp => ?_, fun hp => ?_⟩ <;> rw [hu, hp] <;> rfl

/- non-vacuity: the hypotheses are met by concrete inputs, and both outcomes occur -/
example : ∃ c, cfgOfFacts = some c :=
  (Option.map_eq_some_iff.mp facts_ok).imp fun _ h => h.1
example : (cfgOfFacts.map fun c => storeDecision c "GET".toList true true
    [("Cache-Control".toList, ["public, max-age=60".toList]), ("Age".toList, ["10".toList])])
    = some (some 50) := by decide +kernel
example : (cfgOfFacts.map fun c => storeDecision c "GET".toList true true
    [("Cache-Control".toList, ["max-age=60".toList, "s-maxage=5".toList])])
    = some (some 5) := by decide +kernel

/-- The two defects of the pinned tree, kept as witnesses about the *variant* models:
with a case-sensitive alternation `Private` is stored ... -/
theorem case_sensitive_variant_violates :
    let c : Cfg := ⟨⟨false, Spec.C03.forbidden⟩, sMaxLit, maxLit, true⟩
    let h : Header := [("Cache-Control".toList, ["Private, max-age=60".toList])]
    storeDecision c "GET".toList true true h = some 60
    ∧ Spec.C03.shareableOK "GET".toList h 60 = false := by decide +kernel

/-- ... and with `Get("Set-Cookie") != ""` an empty first Set-Cookie value hides the rest. -/
theorem first_value_variant_violates :
    let c : Cfg := ⟨⟨true, Spec.C03.forbidden⟩, sMaxLit, maxLit, false⟩
    let h : Header := [("Set-Cookie".toList, [[], "a=b".toList]),
                       ("Cache-Control".toList, ["max-age=60".toList])]
    storeDecision c "GET".toList true true h = some 60
    ∧ Spec.C03.shareableOK "GET".toList h 60 = false := by decide +kernel

end C03
end Pike
