import Pike.Model.Config
import Pike.Spec.Skeleton
import Pike.Model.Fields
import Pike.Facts
/-
C17 — accepted configurations are closed under references and round-trip (PARTIAL: the
struct-tag validators and YAML are library code; they enter as `structOK` and the `Yaml`
hypothesis and are compared in the `config` suite).
-/
namespace Pike
namespace C17
open Config

/-- Obligation on the regenerated statement skeletons of the save / read path (config/config.go, config/etcd_client.go):
`Write` validates before anything is marshalled or handed to the client; `Read` unmarshals exactly the client's bytes;
the etcd client stores and returns the bytes under its key as they are and reports every change of the key.  The file
client is exercised by the `config` suite (round trips, refused writes, the real watcher); etcd cannot be run in the
sandbox, so for it this obligation is the tie. -/
theorem save_path_transcribed :
    Facts.skel_Write = Spec.Skeleton.config_Write ∧ Facts.skel_Read = Spec.Skeleton.config_Read
    ∧ Facts.skel_etcdClient_Get = Spec.Skeleton.config_etcdClient_Get
    ∧ Facts.skel_etcdClient_Set = Spec.Skeleton.config_etcdClient_Set
    ∧ Facts.skel_etcdClient_Watch = Spec.Skeleton.config_etcdClient_Watch := by
  refine ⟨?_, ?_, ?_, ?_, ?_⟩ <;> rfl

/-- Obligation on the extracted facts (main.go `update`, the registries' `Reset`): an accepted
configuration is applied bottom-up — compress, caches, upstreams, locations, servers — so that
nothing is visible before what it refers to; a replaced upstream is stored over the old one BEFORE
the old one is destroyed (no moment without an entry under a name both configurations define), and a
location list is swapped in one assignment. -/
theorem facts_applied_without_gaps :
    Facts.reloadOrder = ["compress.Reset", "cache.ResetDispatchers", "upstream.ResetWithOnStats", "location.Reset", "server.Reset", "server.Start"]
    ∧ Facts.upstreamsResetStoresBeforeDestroy = true ∧ Facts.locationsSetSingleSwap = true := ⟨rfl, rfl, rfl⟩

theorem firstBad_ok_iff {vs : List Verdict} : firstBad vs = .ok ↔ ∀ v ∈ vs, v = .ok := by
  induction vs with
  | nil => simp [firstBad]
  | cons v r ih => cases v <;> simp [firstBad, ih]

/-- every stage of `Validate` has this shape: it passes iff its test holds and the later stages pass -/
theorem stage_ok_iff {b : Bool} {v x : Verdict} (hv : v ≠ .ok) :
    (if !b then v else x) = .ok ↔ b = true ∧ x = .ok := by
  cases b <;> simp [hv]

theorem checkServer_ok_iff {c : Cfg} {s : Srv} : checkServer c s = .ok ↔
    (∀ n ∈ s.locations, ∃ l ∈ c.locations, l.name = n)
    ∧ (s.cache = [] ∨ s.cache ∈ c.caches) ∧ (s.compress = [] ∨ s.compress ∈ c.compresses) := by
  unfold checkServer
  rw [stage_ok_iff (by decide), stage_ok_iff (by decide), stage_ok_iff (by decide)]
  simp

theorem validate_ok_iff {structOK : Bool} {c : Cfg} : validate structOK c = .ok ↔
    structOK = true ∧ (∀ l ∈ c.locations, l.upstream ∈ c.upstreams) ∧ ∀ s ∈ c.servers, checkServer c s = .ok := by
  unfold validate
  rw [stage_ok_iff (by decide), stage_ok_iff (by decide), firstBad_ok_iff]
  simp

/-- FULL STATEMENT (closure).  If `Validate` accepts a configuration then every location names an
existing upstream, and every server names existing locations, an existing cache (or none) and an
existing compress profile (or none). -/
theorem validate_closed (structOK : Bool) (c : Cfg) (h : validate structOK c = .ok) :
    structOK = true
    ∧ (∀ l ∈ c.locations, l.upstream ∈ c.upstreams)
    ∧ (∀ s ∈ c.servers, (∀ n ∈ s.locations, ∃ l ∈ c.locations, l.name = n)
        ∧ (s.cache = [] ∨ s.cache ∈ c.caches) ∧ (s.compress = [] ∨ s.compress ∈ c.compresses)) := by
  simpa only [validate_ok_iff, checkServer_ok_iff] using h

/-- FULL STATEMENT (resolution).  Any accepted configuration whose servers name a cache (the
struct validation requires it), once applied, lets every server resolve everything the request
path looks up: its cache, its locations, and the upstream of each of its locations. -/
theorem accepted_resolves (structOK : Bool) (c : Cfg) (h : validate structOK c = .ok)
    (s : Srv) (hs : s ∈ c.servers) (hcache : s.cache ≠ []) : resolves c s := by
  obtain ⟨_, hl, hsv⟩ := validate_closed structOK c h
  obtain ⟨h1, h2, _⟩ := hsv s hs
  exact ⟨h2.resolve_left hcache, h1, fun l hlm _ => hl l hlm⟩

/-- the round trip: with a YAML codec that round-trips configurations, `Read (Write c) = c` up to
the version stamp — stated over an abstract codec, the library is exercised in the suite -/
theorem write_read {C : Type} (marshal : C → Str) (unmarshal : Str → Option C) (stamp : C → C)
    (hrt : ∀ c, unmarshal (marshal c) = some c) (c : C) :
    unmarshal (marshal (stamp c)) = some (stamp c) := hrt (stamp c)

/- non-vacuity: an accepted configuration and each kind of dangling reference -/
def good : Cfg := ⟨["zip".toList], ["c1".toList], ["u1".toList], [⟨"l1".toList, "u1".toList⟩],
  [⟨":80".toList, ["l1".toList], "c1".toList, "zip".toList⟩]⟩
example : validate true good = .ok := by decide +kernel
example : validate true { good with upstreams := [] } = .upstreamNotFound := by decide +kernel
example : validate true { good with locations := [] } = .locationNotFound := by decide +kernel
example : validate true { good with caches := [] } = .cacheNotFound := by decide +kernel
example : validate true { good with compresses := [] } = .compressNotFound := by decide +kernel
example : validate false good = .structErr := by decide +kernel

/-- "All fields are well-formed", for the fields whose rule is pike's own (`Model/Fields.lean`, compared with
`Validate` on every single-field probe of the `config` suite): an accepted policy is the empty string or EXACTLY one of
the four names the upstream library switches on (not another spelling, not a fragment, not a list); an accepted
address has the scheme http or https (in any letter case, as `net/url` reports it); an accepted name is non-empty and at
most twenty runes long. -/
theorem accepted_fields_wellformed (policy addr name : Str)
    (hp : Fields.policyOK policy = true) (ha : Fields.addrOK addr = true) (hn : Fields.nameOK name = true) :
    (policy = [] ∨ policy ∈ Fields.policies)
    ∧ (Fields.scheme addr = some "http".toList ∨ Fields.scheme addr = some "https".toList)
    ∧ (name ≠ [] ∧ Fields.runeCount name ≤ 20) :=
  ⟨Fields.policyOK_iff.mp hp, Fields.addrOK_iff.mp ha, Fields.nameOK_iff.mp hn⟩

/-- near misses are rejected (each of these was accepted by a seeded change of the validator's membership helper) -/
example : Fields.policyOK "First".toList = false ∧ Fields.policyOK "round".toList = false
    ∧ Fields.policyOK "first,random".toList = false ∧ Fields.addrOK "localhost:3015".toList = false
    ∧ Fields.addrOK "//127.0.0.1:1".toList = false ∧ Fields.addrOK "ttp://a.test".toList = false
    ∧ Fields.addrOK "HTTPS://a.test".toList = true ∧ Fields.policyOK "roundRobin".toList = true := by decide +kernel

end C17
end Pike
