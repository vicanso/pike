import Pike.Props.C01
/-
C02 — every coalesced request completes: no lost wake-up, no stuck key.
-/
namespace Pike
namespace C02
open Sys Entry

/-- Obligations on the extracted facts that the model's atomic steps rest on:
* a waiter waits with a plain channel receive (it cannot leave the wait while its channel is still
  registered — `Sys.step (.park t)` / `(.send c)`);
* `Cacheable` and `HitForPass` are each ONE critical section of the entry mutex held to the end of the
  function: fields, detached list and the sends to the waiters happen under it (`Sys.step (.complete t _)`
  up to `(.saved t _)`), and the lookup `Get` locks once;
* the location's proxy timeout is attached to the context the reverse proxy uses, so an upstream that
  never answers ends as an error (the `upEnd` event the progress theorems condition on does occur). -/
theorem facts_wait_and_completion :
    Facts.getShape = "ok"
    ∧ "httpCache.Cacheable:httpCache:1:deferred" ∈ Facts.lockSections
    ∧ "httpCache.HitForPass:httpCache:1:deferred" ∈ Facts.lockSections
    ∧ "httpCache.Get:httpCache:1:explicit" ∈ Facts.lockSections
    ∧ Facts.proxyTimeoutAttached = true := by decide +kernel

/-- Obligation on the extracted lock scopes (entry, shard, server, location registry): no method takes a mutex of
its own object while a caller up the stack — on the same object — already holds it.  Go's mutexes are not
re-entrant: a nested write lock blocks at once, a nested READ lock blocks as soon as a writer (a configuration
update) queues up between the two acquisitions, and with it the fetcher that sits in the middle of a fetch. The
model's lock is a plain owner field; this is what lets it be one. -/
theorem facts_no_reentrant_locking : Facts.reentrantLocking = [] := rfl

/-- a thread is waiting for the environment: its upstream request is in flight.  The property
conditions on every upstream request ending (the proxy timeout turns a silent upstream into 504) -/
def inUpstream : Pc → Bool
  | .fetchUp _ => true
  | .passUp => true
  | _ => false

def finished : Pc → Bool
  | .idle => true
  | .done _ => true
  | _ => false

def Enabled (s : State) (ev : Event) : Prop := (step Facts.waiterRereadsEntry s ev).isSome = true

/-- a thread step (as opposed to environment events: arrivals, ticks, upstream endings, drops,
purges, crashes) -/
def threadEvent : Event → Bool
  | .lookup _ | .get _ _ | .park _ | .complete _ _ | .send _ | .saved _ _ | .resume _ | .age _ => true
  | _ => false

theorem enabled_iff {s : State} {ev : Event} : Enabled s ev ↔ (step false s ev).isSome = true := by
  rw [Enabled, C01.facts_handover.1]

/-- Whoever holds an entry lock is draining, and a drainer can always act or be helped along: with the detached list
empty it saves; otherwise its head waiter is parked (the send is enabled) or registered (its `park` is enabled). -/
theorem lock_progress {s : State} (hi : Inv s) (e : Eid) (hl : s.lock e ≠ none) :
    ∃ ev, threadEvent ev = true ∧ Enabled s ev := by
  obtain ⟨u, hlu⟩ := Option.ne_none_iff_exists'.mp hl
  obtain ⟨o, hpu⟩ := drainOf_eq_some.mp (hi.lock_drain u e hlu)
  cases hq : s.queue e with
  | nil => exact ⟨.saved u true, rfl, enabled_iff.2 (by simp [step, hpu, hq])⟩
  | cons v rest =>
    rcases waitOf_eq_some.mp (hi.queue_wait v e (hq ▸ List.mem_cons_self)) with hpv | hpv
    · exact ⟨.park v, rfl, enabled_iff.2 (by simp [step, hpv])⟩
    · exact ⟨.send u, rfl, enabled_iff.2 (by simp [step, hpu, hq, hpv])⟩

/-- FULL STATEMENT (progress).  In every reachable state, if some request is neither idle nor
finished, then some thread step is enabled, or some upstream request is still in flight.  So no
state is a deadlock: not between requests, completions (including a completer blocked on a
waiter that registered but has not started to wait: then that waiter's `park` is the enabled
step), purges or evictions. -/
theorem progress {s : State} (h : Reachable Facts.waiterRereadsEntry s) (t : Tid) (hnf : finished (s.pc t) = false) :
    (∃ ev, threadEvent ev = true ∧ Enabled s ev) ∨ (∃ u, inUpstream (s.pc u) = true) := by
  have hi := C01.reach_inv h
  -- a step of `t` that needs the lock of `e` free: if it is not, the holder can act
  have unlocked : ∀ e ev, threadEvent ev = true → (s.lock e = none → (step false s ev).isSome = true) →
      ∃ ev, threadEvent ev = true ∧ Enabled s ev := fun e ev hev hen =>
    if hl : s.lock e = none then ⟨ev, hev, enabled_iff.2 (hen hl)⟩ else lock_progress hi e hl
  -- the fetcher of `e` is upstream, or back and completes
  have fetcher : ∀ u e, s.pc u = .fetchUp e ∨ (∃ o, s.pc u = .fetchDone e o) →
      (∃ ev, threadEvent ev = true ∧ Enabled s ev) ∨ ∃ u, inUpstream (s.pc u) = true := fun u e hu =>
    hu.elim (fun hpu => .inr ⟨u, by simp [hpu, inUpstream]⟩) fun ⟨o, hpu⟩ =>
      .inl (unlocked e (.complete u 0) rfl fun hl => by simp [step, hpu, hl])
  cases hp : s.pc t with
  | idle | done a => simp [hp, finished] at hnf
  | arrived k => exact .inl ⟨.lookup t, rfl, enabled_iff.2 (by simp only [step, hp]; cases s.shard k <;> rfl)⟩
  | looked e => exact .inl (unlocked e (.get t .noStore) rfl fun hl => by simp [step, hp, hl])
  | registered e => exact .inl ⟨.park t, rfl, enabled_iff.2 (by simp [step, hp])⟩
  | parked e =>
    rcases hi.wait_where t e (by simp [hp]) with hw | hq
    · obtain ⟨u, -, hu⟩ := hi.fetcher ((hi.entry_ok e).waiters_fetching (List.ne_nil_of_mem hw))
      exact fetcher u e hu
    · exact .inl (lock_progress hi e (hi.queue_locked e (List.ne_nil_of_mem hq)))
  | woken e st r => exact .inl ⟨.resume t, rfl, enabled_iff.2 (by simp [step, hp])⟩
  | fetchUp e => exact fetcher t e (.inl hp)
  | fetchDone e o => exact fetcher t e (.inr ⟨o, hp⟩)
  | draining e o => exact .inl (lock_progress hi e (by simp [hi.drain_lock t e (by simp [hp])]))
  | passUp => exact .inr ⟨t, by simp [hp, inUpstream]⟩
  | hitServe e r => exact .inl (unlocked e (.age t) rfl fun hl => by simp [step, hp, hl])

/-- how far a request is from being answered -/
def rank : Pc → Nat
  | .idle => 0
  | .done _ => 0
  | .arrived _ => 12
  | .looked _ => 11
  | .fetchUp _ => 10
  | .fetchDone _ _ => 9
  | .registered _ => 8
  | .parked _ => 7
  | .woken _ _ _ => 6
  | .draining _ _ => 4
  | .passUp => 3
  | .hitServe _ _ => 2

/-- the detached waiter lists still to be sent to -/
def pending (s : State) (es : List Eid) : Nat := (es.map fun e => (s.queue e).length).sum

/-- moving one thread to a pc of lower rank -/
theorem rank_upd {pc : Tid → Pc} {t : Tid} {q : Pc} (h : rank q < rank (pc t)) :
    (∀ u, rank (upd pc t q u) ≤ rank (pc u)) ∧ ∃ u, rank (upd pc t q u) < rank (pc u) := by
  refine ⟨fun u => ?_, t, by rwa [upd_same]⟩
  rw [upd_apply]; split
  · subst_vars; exact Nat.le_of_lt h
  · exact Nat.le_refl _

/-- FULL STATEMENT (no livelock, no lost wake-up).  Every thread step and every upstream
ending strictly lowers the rank of the acting request or wakes a waiter (lowering that waiter's
rank), and no step of anybody ever raises the rank of another request; ticks, drops and purges
change no rank.  Hence with finitely many arrivals every schedule consists of finitely many
thread steps and (by `progress`) ends with every request answered once the upstream requests
have ended. -/
theorem rank_decreases {s s' : State} (ev : Event)
    (hs : step Facts.waiterRereadsEntry s ev = some s') (hi : Inv s) :
    (∀ u, rank (s'.pc u) ≤ rank (s.pc u) ∨ (∃ k, ev = .arrive u k) ∨ ev = .arrivePass u)
    ∧ ((threadEvent ev = true ∨ ∃ t o, ev = .upEnd t o) → ∃ u, rank (s'.pc u) < rank (s.pc u)) := by
  cases C01.step_Step hs with
  | @arrive t k hpc =>
    refine ⟨fun u => ?_, by simp [threadEvent]⟩
    by_cases hu : u = t
    · exact .inr (.inl ⟨k, hu ▸ rfl⟩)
    · exact .inl (by simp [upd_other _ _ _ _ hu])
  | @arrivePass t hpc =>
    refine ⟨fun u => ?_, by simp [threadEvent]⟩
    by_cases hu : u = t
    · exact .inr (.inr (hu ▸ rfl))
    · exact .inl (by simp [upd_other _ _ _ _ hu])
  | drop | purge | tick => exact ⟨fun u => .inl (Nat.le_refl _), by simp [threadEvent]⟩
  | crash => exact ⟨fun u => .inl (Nat.zero_le _), by simp [threadEvent]⟩
  -- a woken thread was handed `hit` or `hitForPass`, never `fetching`
  | resumeFetching hpc => cases hi.woken_status _ _ _ _ hpc <;> contradiction
  -- every other branch moves one thread (at `send` the head waiter), to a pc of lower rank
  | lookupHit hpc | lookupMiss hpc | getFetch hpc | getWait hpc | getPass hpc | getHit hpc | park hpc | upEndFetch hpc
  | upEndPass hpc | complete hpc | send _ _ hpc | saved hpc | resumeHit hpc | resumePass hpc | age hpc =>
    exact (rank_upd (by simp [hpc, rank])).imp (fun h u => .inl (h u)) fun h _ => h

/-- FULL STATEMENT (released on every outcome).  Whatever way the fetch ends — cacheable, or
the deferred hit-for-pass that covers uncacheable, nil response, upstream error, proxy timeout
and a panic in the handler — the completer detaches the WHOLE waiter list, the entry leaves the
`fetching` state in that same step, and each detached waiter is woken by a `send`. -/
theorem released_on_every_outcome {s s' : State} (h : Reachable Facts.waiterRereadsEntry s) (t : Tid) (e : Eid)
    (o : Outcome) (hfp : Int) (hp : s.pc t = .fetchDone e o)
    (hs : step Facts.waiterRereadsEntry s (.complete t hfp) = some s') :
    s'.queue e = (s.entries e).waiters ∧ (s'.entries e).waiters = []
    ∧ (s'.entries e).status ≠ .fetching ∧ (s'.entries e).status ≠ .unknown
    ∧ (∀ u, waitOf (s.pc u) = some e → u ∈ s'.queue e) := by
  have hi := C01.reach_inv h
  cases C01.step_Step hs with
  | complete hp' hl =>
    cases hp.symm.trans hp'
    obtain ⟨-, hw, hnf, hnu, -⟩ :=
      completeEntry_ok o s.now hfp (s.entries e) hi.now_nonneg fun ttl r ho => hi.done_pos t e ttl r (ho ▸ hp)
    refine ⟨by simp, by simpa using hw, by simpa using hnf, by simpa using hnu, fun u hu => ?_⟩
    -- a waiter of `e` is in the entry's list: the detached list is empty while the lock is free
    simpa using (hi.wait_where u e hu).resolve_right fun hq => hi.queue_locked e (List.ne_nil_of_mem hq) hl

/-- FULL STATEMENT (never stuck fetching).  An entry is `fetching` only while its owner exists
and is in its upstream phase or about to complete; and after a failed fetch the next request
is served normally: it is passed to the upstream at once (hit-for-pass), it does not queue. -/
theorem never_stuck_fetching {s : State} (h : Reachable Facts.waiterRereadsEntry s) (e : Eid)
    (hf : (s.entries e).status = .fetching) :
    ∃ u, s.owner e = some u ∧ (s.pc u = .fetchUp e ∨ ∃ o, s.pc u = .fetchDone e o) :=
  (C01.reach_inv h).fetcher hf

theorem after_failed_fetch_pass (t : Tid) (now now' ttl : Int) (so : Load) (e : Entry)
    (hle : now' ≤ now + hfpTtl ttl) :
    (Entry.get t now' so (Entry.hitForPass now ttl e)).2 = .pass := by
  rw [Entry.get_pass t now' so rfl hle]

/-- total distance of the requests in `ts` from being answered -/
def total (ts : List Tid) (s : State) : Nat := (ts.map fun t => rank (s.pc t)).sum

/-- events that make progress: thread steps and upstream endings -/
def workEvent (ev : Event) : Bool :=
  threadEvent ev || (match ev with | .upEnd _ _ => true | _ => false)

def isArrival : Event → Bool
  | .arrive _ _ => true
  | .arrivePass _ => true
  | _ => false

/-- pointwise `f ≤ g` on `l` carries over to the sums, strictly if some member has `f a < g a` -/
theorem sum_le_of_pointwise {α : Type} {l : List α} {f g : α → Nat} (h : ∀ a ∈ l, f a ≤ g a) :
    (l.map f).sum ≤ (l.map g).sum ∧ ∀ a ∈ l, f a < g a → (l.map f).sum < (l.map g).sum := by
  induction l with
  | nil => simp
  | cons b l ih =>
    have hb := h b List.mem_cons_self
    obtain ⟨ih1, ih2⟩ := ih fun a ha => h a (List.mem_cons_of_mem _ ha)
    simp only [List.map_cons, List.sum_cons, List.mem_cons, forall_eq_or_imp]
    exact ⟨by omega, by omega, fun a ha hlt => by have := ih2 a ha hlt; omega⟩

/-- BOUNDED COMPLETION (trace level).  Take any finite set `ts` of requests containing every
request that is under way.  Along ANY schedule without new arrivals — thread steps, upstream
endings, clock ticks, evictions, purges and store outcomes interleaved in any order — the number
of thread steps and upstream endings performed is at most the total distance `total ts` the
requests had at the start (≤ 12 per request): the system cannot spin, wake-ups cannot be lost
into extra work, and together with `progress` (some thread step is always enabled while a
request is unanswered and no upstream call is pending) every request is answered after finitely
many — explicitly bounded — steps. -/
theorem bounded_completion (ts : List Tid) :
    ∀ (evs : List Event) (s s' : State), Inv s → (∀ u, u ∉ ts → rank (s.pc u) = 0) →
      (∀ ev ∈ evs, isArrival ev = false) → run Facts.waiterRereadsEntry s evs = some s' →
      (evs.filter workEvent).length + total ts s' ≤ total ts s := by
  intro evs
  induction evs with
  | nil => intro s s' _ _ _ hr; cases hr; simp
  | cons ev evs ih =>
    intro s s' hi hout hna hr
    simp only [run] at hr
    split at hr
    · rename_i s1 hst
      obtain ⟨hmono, hdec⟩ := rank_decreases ev hst hi
      -- `ev` is not an arrival, so no rank rises
      have hnarr := hna ev List.mem_cons_self
      have hmono : ∀ u, rank (s1.pc u) ≤ rank (s.pc u) := fun u =>
        (hmono u).resolve_right (by rintro (⟨k, rfl⟩ | rfl) <;> simp [isArrival] at hnarr)
      have ih := ih s1 s' (inv_step hi ev (C01.step_false hst))
        (fun u hu => Nat.le_zero.mp (hout u hu ▸ hmono u)) (fun e he => hna e (List.mem_cons_of_mem _ he)) hr
      obtain ⟨hle, hlt⟩ := sum_le_of_pointwise (l := ts) fun u _ => hmono u
      simp only [total, List.filter_cons] at ih hle hlt ⊢
      split
      · rename_i hw
        -- a work step lowers the rank of some request, which is one of `ts` since its rank was positive
        obtain ⟨u, hu⟩ := hdec <| ((Bool.or_eq_true _ _).mp hw).imp_right fun h => by
          split at h
          · exact ⟨_, _, rfl⟩
          · cases h
        have := hlt u (Classical.byContradiction fun hn => by have := hout u hn; omega) hu
        simp only [List.length_cons]; omega
      · omega
    · cases hr

/-- the bound in numbers: at most 12 work steps per request -/
theorem total_le (ts : List Tid) (s : State) : total ts s ≤ 12 * ts.length := by
  have h : ∀ t ∈ ts, rank (s.pc t) ≤ 12 := fun t _ => by cases s.pc t <;> simp [rank]
  simpa [total, List.map_const', Nat.mul_comm] using (sum_le_of_pointwise h).1

end C02
end Pike
